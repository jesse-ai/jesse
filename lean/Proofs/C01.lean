/-
  Proofs/C01.lean — backtest decisions never depend on future candles (no look-ahead).
  Theorems over the engine model (Jesse/Engine.lean, tied to the real engine by whole-session trace
  correspondence).  The user strategy `u` is an ARBITRARY record of functions of the engine state, so
  "for every strategy" is a real universal quantifier; the engine state contains the complete trace
  (`log`), the candle store, the accounts and the strategies' memories, so equality of states is
  equality of everything observable.
-/
import Proofs.Lemmas.Prefix
import Proofs.Lemmas.Loops

namespace C01
open Jesse Jesse.Eng PrefixLemmas

variable {M : Type} [Inhabited M] (u : UserStrategy M)

/-- the second components are the input arrays as the two runs have jump-fixed them in place so far -/
def RunsAgree (n : Nat) (x y : Engine M × List (List Candle)) : Prop := x.1 = y.1 ∧ Agree n x.2 y.2

/-- per symbol: iteration `i` only reads rows `i-1` and `i` and the window ending at `i` -/
theorem symStep_prefix (fuel : Nat) {i n : Nat} (hi : i < n) (sym : Nat) (x y : Engine M × List (List Candle))
    (h : RunsAgree n x y) : RunsAgree n (symStep u fuel i x sym) (symStep u fuel i y sym) := by
  obtain ⟨e, a⟩ := x
  obtain ⟨e', b⟩ := y
  obtain ⟨rfl, hab⟩ : e = e' ∧ Agree n a b := h
  have hs := hab.2 sym
  unfold symStep
  split
  · exact ⟨rfl, hab⟩
  dsimp only
  rw [fixedRow_agree hs hi]
  split
  · exact ⟨rfl, hab⟩
  rename_i c _
  have hset := set_take_agree (i := i) c hs
  refine ⟨?_, agree_set n a b sym _ _ hab hset⟩
  dsimp only
  refine congrArg (fun f => List.foldl f _ _) (funext fun eacc => funext fun tf => ?_)
  split
  · rename_i htf; rw [window_agree hset (Nat.succ_le_of_lt hi) (Nat.succ_pos i) htf (by omega) (by omega)]
  · rfl

theorem stepAt_prefix (fuel : Nat) {i n : Nat} (hi : i < n) (e : Engine M) (a b : List (List Candle)) (hab : Agree n a b) :
    RunsAgree n (stepAt u fuel a e i) (stepAt u fuel b e i) := by
  unfold stepAt
  split
  · exact ⟨rfl, hab⟩
  rw [getElem?_of_take_eq (hab.2 0) hi]
  have h := foldl_rel (l := List.range e.cfg.nsym) (fun s _ => symStep_prefix u fuel hi s)
    (show RunsAgree n ({ e with time := ((((b.getD 0 [])[i]?).map (·.ts)).getD 0) + 60000 }, a) (_, b) from ⟨rfl, hab⟩)
  exact ⟨congrArg (routesStep u fuel · i (i + 1)) h.1, h.2⟩

/-- NO LOOK-AHEAD, normal simulator: for every strategy, configuration and route set, if two candle inputs
    agree on the rows before the cut `n` (for every symbol), then after the first `n` iterations, started from
    any engine state, the two runs are in the same state, whatever follows the cut (other candles, a different
    number of candles). -/
theorem step_prefix (fuel n : Nat) (hn : 0 < n) (e : Engine M) (a b : List (List Candle)) (hab : Agree n a b) :
    (runStepN u fuel a e n).1 = (runStepN u fuel b e n).1 := by
  unfold runStepN
  rw [getElem?_of_take_eq (hab.2 0) hn]
  refine (foldl_rel (R := RunsAgree n) (fun i hi x y h => ?_) (show RunsAgree n (_, a) (_, b) from ⟨rfl, hab⟩)).1
  rw [h.1]; exact stepAt_prefix u fuel (List.mem_range.mp hi) y.1 x.2 y.2 h.2

/-- the trace (log of every hook call, submission, cancellation, fill, equity sample) is part of the
    state, so in particular the two runs produced the same events so far -/
theorem step_prefix_trace (fuel n : Nat) (hn : 0 < n) (e : Engine M) (a b : List (List Candle)) (hab : Agree n a b) :
    (runStepN u fuel a e n).1.log = (runStepN u fuel b e n).1.log := by
  rw [step_prefix u fuel n hn e a b hab]

/-- per symbol: the chunk `[i, i+step)` only reads rows `i-1 … i+step-1` and windows ending at `i+step` -/
theorem symSkip_prefix (fuel : Nat) {i step n : Nat} (hi : i + step ≤ n) (hstep : 0 < step) (sym : Nat)
    (x y : Engine M × List (List Candle)) (h : RunsAgree n x y) :
    RunsAgree n (symSkip u fuel i step x sym) (symSkip u fuel i step y sym) := by
  obtain ⟨e, a⟩ := x
  obtain ⟨e', b⟩ := y
  obtain ⟨rfl, hab⟩ : e = e' ∧ Agree n a b := h
  have hcs := fixedFirst_agree (hab.2 sym) (Nat.lt_of_lt_of_le (Nat.lt_add_of_pos_right hstep) hi)
  unfold symSkip
  split
  · exact ⟨rfl, hab⟩
  refine ⟨?_, agree_set n a b sym _ _ hab hcs⟩
  dsimp only
  rw [← Int.natCast_add, slice_agree i (i + step) hi hcs]
  refine congrArg (fun f => List.foldl f _ _) (funext fun eacc => funext fun tf => ?_)
  split
  · rename_i htf; rw [window_agree hcs hi (Nat.add_pos_right i hstep) htf (by omega) (by omega)]
  · rfl

theorem skipAt_prefix (fuel : Nat) {i step n : Nat} (hi : i + step ≤ n) (hstep : 0 < step) (e : Engine M)
    (a b : List (List Candle)) (hab : Agree n a b) : RunsAgree n (skipAt u fuel a e i step) (skipAt u fuel b e i step) := by
  unfold skipAt
  split
  · exact ⟨rfl, hab⟩
  have h := foldl_rel (l := List.range e.cfg.nsym) (fun s _ => symSkip_prefix u fuel hi hstep s)
    (show RunsAgree n (e, a) (e, b) from ⟨rfl, hab⟩)
  exact ⟨congrArg (routesStep u fuel · i (i + step)) h.1, h.2⟩

/-- NO LOOK-AHEAD, fast simulator: if two inputs agree on the rows before the cut `n`, the cut lies on a
    chunk boundary (`n = k·step`; the chunk is the gcd of the route timeframes, so every trading-candle
    boundary is one) and both inputs have at least `n` rows, then after the first `k` chunks the two runs
    are in the same state.  Proved for every chunk size `step > 0`. -/
theorem fast_prefix (fuel step k : Nat) (hstep : 0 < step) (hk : 0 < k) (e : Engine M) (a b : List (List Candle))
    (hab : Agree (k * step) a b)
    (hla : k * step ≤ (a.getD 0 []).length) (hlb : k * step ≤ (b.getD 0 []).length) :
    (runSkipN u fuel a e step k).1 = (runSkipN u fuel b e step k).1 := by
  unfold runSkipN
  rw [getElem?_of_take_eq (hab.2 0) (Nat.mul_pos hk hstep)]
  refine (foldl_rel (R := RunsAgree (k * step)) (fun j hj x y h => ?_) (show RunsAgree _ (_, a) (_, b) from ⟨rfl, hab⟩)).1
  -- a complete chunk before the cut: both lengths allow the full step
  have hfull : j * step + step ≤ k * step := Nat.succ_mul j step ▸ Nat.mul_le_mul_right step (List.mem_range.mp hj)
  rw [h.1, Nat.min_eq_left (by omega), Nat.min_eq_left (by omega)]
  exact skipAt_prefix u fuel hfull hstep y.1 x.2 y.2 h.2

/-- non-vacuity of the hypotheses: two different inputs that agree on their first two rows -/
example : Agree 2 [[⟨0, 1, 1, 1, 1, 1⟩, ⟨60000, 1, 2, 2, 1, 1⟩, ⟨120000, 2, 3, 3, 2, 1⟩]]
                  [[⟨0, 1, 1, 1, 1, 1⟩, ⟨60000, 1, 2, 2, 1, 1⟩, ⟨120000, 9, 9, 9, 9, 9⟩, ⟨180000, 9, 9, 9, 9, 9⟩]] := by
  refine ⟨rfl, fun s => ?_⟩
  cases s with
  | zero => rfl
  | succ k => simp [List.getD]

end C01

/-
  Proofs/C05.lean — order lifecycle: one terminal transition, idempotent execute/cancel, the active
  registry, every executed order in exactly one trade.  First over the accounts model (Jesse/Accounts.lean, tied to the
  real classes by correspondence), with the invariant `ActiveIn` (every active order is listed in its symbol's registry)
  for every history of account operations; then, in `section engine`, over the engine model (Jesse/Engine.lean) for
  every strategy.
-/
import Proofs.C02

namespace C05
open Jesse Jesse.Acc

/-- the status order: active may become executed or canceled; final statuses never change -/
def Step (a b : OrderStatus) : Prop := a = b ∨ (a = .active ∧ b ≠ .active)

/-- EXECUTING AN ORDER THAT IS ALREADY FINAL HAS NO EFFECT on anything: balances, positions, margin
    tables, registries, trade records (the whole model state is unchanged) — spot and futures. -/
theorem execute_final_noop (w : World) (id : Nat) (o : Order) (h : w.orders[id]? = some o)
    (hf : o.status ≠ .active) : execute w id = w :=
  execute_noop (fun x hx => by rw [h] at hx; cases hx; exact hf)

theorem cancel_final_noop (w : World) (id : Nat) (o : Order) (h : w.orders[id]? = some o)
    (hf : o.status ≠ .active) : cancel w id = w :=
  cancel_noop (fun x hx => by rw [h] at hx; cases hx; exact hf)

/-- an unknown id is ignored as well -/
theorem execute_unknown_noop (w : World) (id : Nat) (h : w.orders[id]? = none) :
    execute w id = w ∧ cancel w id = w :=
  ⟨execute_noop (fun x hx => by rw [h] at hx; cases hx), cancel_noop (fun x hx => by rw [h] at hx; cases hx)⟩

theorem step_of_ext {w w' : World} (h : FrameLemmas.WExt w w') {j : Nat} (hj : j < w.orders.length) :
    Step (w.orders.getD j default).status (w'.orders.getD j default).status := by
  by_cases ha : (w.orders.getD j default).status = .active
  · by_cases hb : (w'.orders.getD j default).status = .active
    · exact .inl (ha.trans hb.symm)
    · exact .inr ⟨ha, hb⟩
  · exact .inl (h.final j hj ha).symm

theorem step_of_ext_getElem {w w' : World} (h : FrameLemmas.WExt w w') {j : Nat} {o o' : Order}
    (ho : w.orders[j]? = some o) (ho' : w'.orders[j]? = some o') : Step o.status o'.status := by
  have := step_of_ext h (List.getElem?_eq_some_iff.mp ho).1
  rwa [List.getD_eq_getElem?_getD, List.getD_eq_getElem?_getD, ho, ho'] at this

/-- STATUS MONOTONE: one `execute` or `cancel` call moves every order's status along
    active → executed | canceled at most once and never back. -/
theorem status_step_execute (w : World) (id j : Nat) (o o' : Order)
    (h : w.orders[j]? = some o) (h' : (execute w id).orders[j]? = some o') : Step o.status o'.status :=
  step_of_ext_getElem (FrameLemmas.execute_ext w id) h h'

theorem status_step_cancel (w : World) (id j : Nat) (o o' : Order)
    (h : w.orders[j]? = some o) (h' : (cancel w id).orders[j]? = some o') : Step o.status o'.status :=
  step_of_ext_getElem (FrameLemmas.cancel_ext w id) h h'

/-- `Step` is transitive: over any history of calls a status takes at most one terminal transition -/
theorem Step.trans {a b c : OrderStatus} (h1 : Step a b) (h2 : Step b c) : Step a c := by
  rcases h1 with h1 | ⟨h1, h1'⟩
  · subst h1; exact h2
  · rcases h2 with h2 | ⟨h2, _⟩
    · subst h2; exact Or.inr ⟨h1, h1'⟩
    · exact absurd h2 h1'

/-- ACTIVE REGISTRY: after `update_active_orders` the ids reported as active for a symbol are exactly
    the previously listed ids whose order is not final. -/
theorem active_registry (w : World) (sym : Nat) (hs : sym < w.active.length) (id : Nat) :
    id ∈ getD (updateActive w sym).active sym ↔
      (id ∈ getD w.active sym ∧ ∃ o, w.orders[id]? = some o ∧ o.status = .active) := by
  unfold updateActive
  dsimp only
  rw [getD_upd_same _ _ _ hs, List.mem_filter]
  constructor
  · rintro ⟨h1, h2⟩
    refine ⟨h1, ?_⟩
    cases ho : w.orders[id]? with
    | none => simp [ho] at h2
    | some o => simp only [ho, decide_eq_true_eq] at h2; exact ⟨o, rfl, h2⟩
  · rintro ⟨h1, o, ho, ha⟩
    exact ⟨h1, by simp [ho, ha]⟩

/-- EXECUTED ONCE IN ONE TRADE (step): executing an active order appends its id exactly once to the
    trade under construction of its symbol; executing it again appends nothing (`execute_final_noop`). -/
theorem executed_recorded_once (w : World) (o : Order) (hs : o.sym < w.temp.length) :
    (getD (addExecutedOrder w o).temp o.sym).orders = (getD w.temp o.sym).orders ++ [o.id] := by
  unfold addExecutedOrder
  dsimp only
  rw [getD_upd_same _ _ _ hs]
  split <;> rfl

/-! ### every active order is listed in its symbol's registry (operation level, any history)

`active_registry` describes one clean-up of the registry.  The converse direction — the registry never LOSES an order
that is still active — is an invariant of every operation of the accounts model: a submission registers the new
order, executions and cancellations leave the registries alone and only move statuses away from ACTIVE, and the
clean-up drops only orders that are no longer active.  (It is the hypothesis "the registry lists every active order"
of C02's composition theorem, here for every history of account operations.) -/

def ActiveIn (w : World) : Prop :=
  ∀ id, id < w.orders.length →
    (w.orders.getD id default).sym < w.active.length ∧
    ((w.orders.getD id default).status = .active → id ∈ getD w.active (w.orders.getD id default).sym)

theorem activeIn_init (kind : Kind) (b f l : Rat) (n : Nat) : ActiveIn (init kind b f l n) := by
  intro id hid; simp [init] at hid

theorem activeIn_of_ext (w w' : World) (h : ActiveIn w) (hext : FrameLemmas.WExt w w') (hlen : w'.orders.length = w.orders.length)
    (hact : w'.active = w.active) : ActiveIn w' := by
  intro id hid
  rw [hlen] at hid
  obtain ⟨h1, h2⟩ := h id hid
  have hs := (hext.same id hid).2
  rw [hs, hact]
  exact ⟨h1, fun ha => h2 (hext.noRevive id hid ha)⟩

theorem activeIn_execute (w : World) (id : Nat) (h : ActiveIn w) : ActiveIn (execute w id) :=
  activeIn_of_ext w _ h (FrameLemmas.execute_ext w id) (by rw [execute_orders, length_upd]) (execute_active w id)

theorem activeIn_cancel (w : World) (id : Nat) (h : ActiveIn w) : ActiveIn (cancel w id) :=
  activeIn_of_ext w _ h (FrameLemmas.cancel_ext w id) (by rw [cancel_orders, length_upd]) (cancel_active w id)

theorem activeIn_updRegistry (w : World) (sym : Nat) (g : List Nat → List Nat) (h : ActiveIn w)
    (hg : ∀ id, id < w.orders.length → id ∈ getD w.active sym → (w.orders.getD id default).status = .active →
      id ∈ g (getD w.active sym)) : ActiveIn { w with active := upd w.active sym g } := by
  intro id hid
  obtain ⟨h1, h2⟩ := h id hid
  refine ⟨(length_upd _ _ _).symm ▸ h1, fun ha => ?_⟩
  show id ∈ getD (upd w.active sym g) (w.orders.getD id default).sym
  rw [getD_upd]
  split
  · rename_i hh
    rw [← hh.1] at h2 ⊢
    exact hg id hid (h2 ha) ha
  · exact h2 ha

/-- the registry clean-up drops only orders that are not active -/
theorem activeIn_updateActive (w : World) (sym : Nat) (h : ActiveIn w) : ActiveIn (updateActive w sym) :=
  activeIn_updRegistry w sym _ h (fun id hid hin ha => List.mem_filter.mpr ⟨hin, by
    rw [List.getD_eq_getElem?_getD, List.getElem?_eq_getElem hid] at ha
    rw [List.getElem?_eq_getElem hid]; exact decide_eq_true ha⟩)

/-- a successful submission for a symbol that has a registry keeps the invariant: the new order is registered -/
theorem activeIn_submit {w w' : World} {sym : Nat} {side : Side} {type : OrderType} {q p : Rat} {ro : Bool}
    (h : ActiveIn w) (hs : sym < w.active.length) (hok : submit w sym side type q p ro = .ok w') : ActiveIn w' := by
  obtain ⟨hord, hact⟩ := submit_ok hok
  intro id hid
  rw [hord, List.length_append, List.length_singleton] at hid
  rw [hord, hact, length_upd, List.getD_eq_getElem?_getD]
  by_cases hold : id < w.orders.length
  · obtain ⟨h1, h2⟩ := h id hold
    rw [List.getElem?_append_left hold, ← List.getD_eq_getElem?_getD]
    refine ⟨h1, fun ha => ?_⟩
    rw [getD_upd]
    split
    · exact List.mem_append_left _ (h2 ha)
    · exact h2 ha
  · have hid' : id = w.orders.length := by omega
    subst hid'
    rw [List.getElem?_concat_length]
    refine ⟨hs, fun _ => ?_⟩
    show _ ∈ getD (upd w.active sym _) sym
    rw [getD_upd_same _ _ _ hs]
    exact List.mem_append_right _ (List.mem_singleton.mpr rfl)

theorem activeIn_submit_err {w w' : World} {k : Err} {sym : Nat} {side : Side} {type : OrderType} {q p : Rat} {ro : Bool}
    (h : ActiveIn w) (herr : submit w sym side type q p ro = .error (k, w')) : ActiveIn w' :=
  activeIn_of_ext w w' h (FrameLemmas.submit_err_ext herr) (congrArg List.length (submit_err herr).1) (submit_err herr).2

/-- the engine's registry RESET (inside `_execute_cancel`, when a position closes or resting entries are given up):
    emptying a symbol's registry keeps the invariant PROVIDED no order listed for the symbol is still active; that is a
    hypothesis here, which no theorem of the development establishes of the state the engine resets -/
theorem activeIn_reset (w : World) (sym : Nat) (h : ActiveIn w)
    (hnone : ∀ id ∈ getD w.active sym, (w.orders.getD id default).status ≠ .active) :
    ActiveIn { w with active := upd w.active sym (fun _ => []) } :=
  activeIn_updRegistry w sym _ h (fun id _ hin ha => absurd ha (hnone id hin))

/-- the account operations of a session -/
inductive AOp where
  | submit (sym : Nat) (side : Side) (type : OrderType) (q p : Rat) (ro : Bool)
  | execute (id : Nat)
  | cancel (id : Nat)
  | cleanUp (sym : Nat)

def applyOp (w : World) : AOp → World
  | .submit sym side type q p ro =>
    if sym < w.active.length then
      (match Acc.submit w sym side type q p ro with | .ok w' => w' | .error (_, w') => w')
    else w
  | .execute id => Acc.execute w id
  | .cancel id => Acc.cancel w id
  | .cleanUp sym => updateActive w sym

theorem activeIn_applyOp (w : World) (op : AOp) (h : ActiveIn w) : ActiveIn (applyOp w op) := by
  cases op with
  | submit sym side type q p ro =>
    simp only [applyOp]
    by_cases hs : sym < w.active.length
    · rw [if_pos hs]
      cases hsub : Acc.submit w sym side type q p ro with
      | ok w' => exact activeIn_submit h hs hsub
      | error kw => obtain ⟨k, w'⟩ := kw; exact activeIn_submit_err h hsub
    · rw [if_neg hs]; exact h
  | execute id => exact activeIn_execute w id h
  | cancel id => exact activeIn_cancel w id h
  | cleanUp sym => exact activeIn_updateActive w sym h

/-- EVERY HISTORY: after any sequence of submissions (accepted or rejected), executions, cancellations (of any ids,
    known, unknown or already final) and registry clean-ups, every active order is listed in its symbol's registry -/
theorem activeIn_history (kind : Kind) (b f l : Rat) (n : Nat) (ops : List AOp) :
    ActiveIn (ops.foldl applyOp (init kind b f l n)) :=
  foldl_keeps activeIn_applyOp ops (activeIn_init kind b f l n)

/-- non-vacuity: two symbols; submit on both, execute one, clean up — the other is still listed -/
def demoHistory : World := List.foldl applyOp (init .futures 1000 0 1 2)
  [AOp.submit 0 .buy .limit 1 10 false, .submit 1 .sell .limit 1 12 false, .execute 0, .cleanUp 0, .cleanUp 1]
example : decide (demoHistory.active = [[], [1]] ∧ demoHistory.orders.map (·.status) = [.executed, .active]) = true := by
  decide +kernel

section engine
open Jesse.Eng FrameLemmas

variable {M : Type} [Inhabited M] (u : UserStrategy M)

/-- `createOrder` (every order submitted through the broker: entries, exits, the closing order of `terminate`; the
    liquidation check submits its order itself, not through `createOrder`) keeps the invariant, for a symbol that has a
    registry -/
theorem activeIn_createOrder (e : Engine M) (sym : Nat) (a : Jesse.Gen.ApiCall) (via : Option Via)
    (h : ActiveIn e.w) (hs : sym < e.w.active.length) : ActiveIn (createOrder e sym a via).w := by
  fun_cases createOrder e sym a via
  · exact h
  · rw [fail_w]; exact activeIn_submit_err h ‹_›
  · exact activeIn_submit h hs ‹_›

theorem activeIn_cancelOrder (e : Engine M) (id : Nat) (h : ActiveIn e.w) : ActiveIn (cancelOrder e id).w := by
  fun_cases cancelOrder e id
  · exact activeIn_cancel e.w id h
  · exact h

/-- `resetStrategy` (the registry reset) keeps the invariant when nothing listed for the symbol is active any more -/
theorem activeIn_resetStrategy (e : Engine M) (r : Nat) (h : ActiveIn e.w)
    (hnone : ∀ id ∈ getD e.w.active (routeOf e r).sym, (e.w.orders.getD id default).status ≠ .active) :
    ActiveIn (resetStrategy e r).w :=
  activeIn_reset e.w (routeOf e r).sym h hnone

/-- C02's composition without its registry hypothesis: when the state the loop returns satisfies the invariant
    (a hypothesis), "active" alone is enough — no order of the symbol that was resting before the minute is left ACTIVE
    with its price inside the minute's range, registered or not (normal simulator, every strategy) -/
theorem active_order_never_left_in_range (fuel : Nat) (e : Engine M) (sym : Nat) (real : Candle) (hv : real.Valid) :
    let r := matchLoop u fuel e sym real (ComposeLemmas.sel sym e real) (ComposeLemmas.sel sym) false
    r.1.err = none → ActiveIn r.1.w →
      ∀ id, id < e.w.orders.length → (orderOf r.1 id).status = .active → (orderOf r.1 id).sym = sym →
        ¬ Jesse.Gen.candleIncludesPrice real (orderOf e id).price := by
  intro r herr hin id hid hact hsym
  have hext : EExt e r.1 := ((EExt.closed e).closedAt sym).matchLoop u fuel real _ _ _ (.refl e)
  have hlen : id < r.1.w.orders.length := Nat.lt_of_lt_of_le hid hext.len
  have hreg := (hin id hlen).2 hact
  have hsym' : (r.1.w.orders.getD id default).sym = sym := hsym
  rw [hsym'] at hreg
  exact C02.resting_order_never_left_in_range u fuel e sym real hv herr id hid hact hreg

/-! Every function of the engine model keeps the frame relation `FrameLemmas.EExt` (`EExt.closed` with
Proofs/Lemmas/Closed.lean): for every `UserStrategy`, candle input, fuel and engine state.  The lifecycle is read off it. -/

omit [Inhabited M] in
theorem lifecycle_of_ext {e e' : Engine M} (h : EExt e e') (id : Nat) (hid : id < e.w.orders.length) :
    Step (orderOf e id).status (orderOf e' id).status ∧
    ((orderOf e id).status ≠ .active → (orderOf e' id).status = (orderOf e id).status) ∧
    (orderOf e' id).price = (orderOf e id).price ∧ (orderOf e' id).sym = (orderOf e id).sym ∧
    (∀ sym, id ∈ Acc.getD e'.w.active sym → id ∈ Acc.getD e.w.active sym) :=
  ⟨step_of_ext h hid, h.final id hid, (h.same id hid).1, (h.same id hid).2, fun sym hm => h.registry sym id hid hm⟩

/-- ONE TERMINAL TRANSITION OVER A WHOLE RUN of the normal simulator: every order that exists at any point `e`
    moves along active → final at most once until the end of the run, a final status never changes, symbol and
    price never change, and a final order never returns to a registry -/
theorem run_lifecycle_step (fuel : Nat) (inputs : List (List Candle)) (e : Engine M) (id : Nat) (hid : id < e.w.orders.length) :
    Step (orderOf e id).status (orderOf (runStep u fuel inputs e) id).status ∧
    ((orderOf e id).status ≠ .active → (orderOf (runStep u fuel inputs e) id).status = (orderOf e id).status) ∧
    (orderOf (runStep u fuel inputs e) id).price = (orderOf e id).price ∧
    (orderOf (runStep u fuel inputs e) id).sym = (orderOf e id).sym ∧
    (∀ sym, id ∈ Acc.getD (runStep u fuel inputs e).w.active sym → id ∈ Acc.getD e.w.active sym) :=
  lifecycle_of_ext ((EExt.closed e).runStep u fuel inputs (EExt.refl e)) id hid

/-- the same over a whole run of the fast simulator -/
theorem run_lifecycle_skip (fuel : Nat) (inputs : List (List Candle)) (e : Engine M) (id : Nat) (hid : id < e.w.orders.length) :
    Step (orderOf e id).status (orderOf (runSkip u fuel inputs e) id).status ∧
    ((orderOf e id).status ≠ .active → (orderOf (runSkip u fuel inputs e) id).status = (orderOf e id).status) ∧
    (orderOf (runSkip u fuel inputs e) id).price = (orderOf e id).price ∧
    (orderOf (runSkip u fuel inputs e) id).sym = (orderOf e id).sym ∧
    (∀ sym, id ∈ Acc.getD (runSkip u fuel inputs e).w.active sym → id ∈ Acc.getD e.w.active sym) :=
  lifecycle_of_ext ((EExt.closed e).runSkip u fuel inputs (EExt.refl e)) id hid

theorem run_prefix_ext_step (fuel : Nat) (inputs : List (List Candle)) (e : Engine M) (n k : Nat) :
    EExt (runStepN u fuel inputs e n).1 (runStepN u fuel inputs e (n + k)).1 := by
  unfold runStepN
  rw [List.range_add, List.foldl_append]
  exact foldl_keeps_fst (fun acc i => (EExt.closed _).stepAt u fuel acc.2 i) _ (EExt.refl _)

theorem run_prefix_ext_skip (fuel : Nat) (inputs : List (List Candle)) (e : Engine M) (step n k : Nat) :
    EExt (runSkipN u fuel inputs e step n).1 (runSkipN u fuel inputs e step (n + k)).1 := by
  unfold runSkipN
  rw [List.range_add, List.foldl_append]
  exact foldl_keeps_fst (fun acc _ => (EExt.closed _).skipAt u fuel acc.2 _ _) _ (EExt.refl _)

/-- NEVER CHANGES AFTERWARDS, at every minute of the run: an order that is final after `n` iterations of the
    normal simulator has the same status after any later iteration (and so an order takes at most one
    terminal transition along the whole sequence of minute states) -/
theorem final_stays_final_step (fuel : Nat) (inputs : List (List Candle)) (e : Engine M) (n k id : Nat)
    (hid : id < (runStepN u fuel inputs e n).1.w.orders.length)
    (hf : (orderOf (runStepN u fuel inputs e n).1 id).status ≠ .active) :
    (orderOf (runStepN u fuel inputs e (n + k)).1 id).status = (orderOf (runStepN u fuel inputs e n).1 id).status :=
  (run_prefix_ext_step u fuel inputs e n k).final id hid hf

theorem final_stays_final_skip (fuel : Nat) (inputs : List (List Candle)) (e : Engine M) (step n k id : Nat)
    (hid : id < (runSkipN u fuel inputs e step n).1.w.orders.length)
    (hf : (orderOf (runSkipN u fuel inputs e step n).1 id).status ≠ .active) :
    (orderOf (runSkipN u fuel inputs e step (n + k)).1 id).status = (orderOf (runSkipN u fuel inputs e step n).1 id).status :=
  (run_prefix_ext_skip u fuel inputs e step n k).final id hid hf

/-- the same for one strategy step (before → check → after with arbitrary hooks) and one matched minute -/
theorem strategy_step_lifecycle (fuel : Nat) (e : Engine M) (r id : Nat) (hid : id < e.w.orders.length) :
    Step (orderOf e id).status (orderOf (executeStrategy u fuel e r) id).status :=
  (lifecycle_of_ext ((EExt.closed e).executeStrategy u fuel r (EExt.refl e)) id hid).1

theorem minute_lifecycle (fuel : Nat) (e : Engine M) (sym : Nat) (c : Candle) (id : Nat) (hid : id < e.w.orders.length) :
    Step (orderOf e id).status (orderOf (simulateMinute u fuel e sym c) id).status :=
  (lifecycle_of_ext (((EExt.closed e).closedAt sym).simulateMinute u fuel c (EExt.refl e)) id hid).1

/-- not vacuous: in the demo session of C02 (a LIMIT buy at 97 and a STOP buy at 103 resting, the candle
    95..105) both orders exist before the run, are active, and are executed by the run, which ends without error
    (the third order is the closing market order of the end of the session) -/
example : C02.demoEngine.w.orders.map (·.status) = [.active, .active] := by decide +kernel
example : (runStep C02.idle 50 [[C02.demoCandle]] C02.demoEngine).err = none := by decide +kernel
example : (runStep C02.idle 50 [[C02.demoCandle]] C02.demoEngine).w.orders.map (·.status) = [.executed, .executed, .executed] := by
  decide +kernel

end engine

end C05

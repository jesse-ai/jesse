/-
  Proofs/C08.lean — C08, pure part: `split_candle` as generated from the source is the cut of the
  continuous price path (`split_spec`, the one walk over its branches), hence valid,
  O/H/L/C-preserving and meeting at the split price (`pathSplit_ok`, about the specification alone,
  carries these clauses).  Core Lean only.
-/
import Jesse.Gen.CandleSvc
import Spec.PathSplit

namespace C08
open Jesse Jesse.Gen Spec

theorem split_spec (k : Candle) (p : Rat) (hv : k.Valid) :
    splitCandle k p = if p = k.o then some (k, k) else
      if candleIncludesPrice k p then some (pathSplit k p) else none := by
  obtain ⟨h1, h2, h3, h4⟩ := hv
  fun_cases splitCandle k p <;> grind [isBullish, isBearish, pathSplit, candleIncludesPrice]

/-- Full functional specification: for every valid candle and every price inside its range other
    than the open, the code's `split_candle` is exactly the cut of the canonical path. -/
theorem split_is_path_split (k : Candle) (p : Rat) (hv : k.Valid) (hl : k.l ≤ p) (hh : p ≤ k.h)
    (hne : p ≠ k.o) : splitCandle k p = some (pathSplit k p) := by
  rw [split_spec k p hv, if_neg hne, if_pos ⟨hl, hh⟩]

/-- At the open the candle is not split (both parts are the candle itself). -/
theorem split_at_open (k : Candle) : splitCandle k k.o = some (k, k) := by
  unfold splitCandle
  simp only [isBullish, isBearish]
  grind

theorem split_ts (k : Candle) (p : Rat) (a b : Candle) (h : splitCandle k p = some (a, b)) :
    a.ts = k.ts ∧ b.ts = k.ts := by
  revert h
  fun_cases splitCandle k p <;> intro h <;> cases h <;> exact ⟨rfl, rfl⟩

theorem pathSplit_ok (k : Candle) (p : Rat) (hv : k.Valid) (hl : k.l ≤ p) (hh : p ≤ k.h) :
    SplitOK k p (pathSplit k p).1 (pathSplit k p).2 := by
  obtain ⟨h1, h2, h3, h4⟩ := hv
  fun_cases pathSplit k p <;> constructor <;> simp only [Candle.Valid] <;> grind

/-- The clauses of C08 for the pure split: the result exists, both parts are valid candles, the
    original open/close/high/low are kept and — for any price other than the open — the parts meet
    at the split price. -/
theorem split_valid (k : Candle) (p : Rat) (hv : k.Valid) (hl : k.l ≤ p) (hh : p ≤ k.h) :
    ∃ a b, splitCandle k p = some (a, b) ∧ SplitOK k p a b := by
  by_cases hne : p = k.o
  · subst hne
    exact ⟨k, k, split_at_open k, hv, hv, rfl, rfl, if_neg Rat.lt_irrefl, if_neg Rat.lt_irrefl,
      fun h => absurd rfl h⟩
  · exact ⟨_, _, split_is_path_split k p hv hl hh hne, pathSplit_ok k p hv hl hh⟩

/-- `split_candle` is total on its domain: it returns `None` only outside the candle's range. -/
theorem split_total_iff (k : Candle) (p : Rat) (hv : k.Valid) :
    (splitCandle k p).isSome ↔ (candleIncludesPrice k p ∨ p = k.o) := by
  rw [split_spec k p hv]
  split
  · simp [*]
  · split <;> simp [*]

/-- non-vacuity: a concrete rising candle split strictly inside its body -/
example : splitCandle ⟨0, 10, 12, 13, 9, 5⟩ 11 = some (⟨0, 10, 11, 11, 9, 5⟩, ⟨0, 11, 12, 13, 11, 5⟩) := by
  decide +kernel

example : (⟨0, 10, 12, 13, 9, 5⟩ : Candle).Valid ∧ (9:Rat) ≤ 11 ∧ (11:Rat) ≤ 13 ∧ (11:Rat) ≠ 10 := by
  decide +kernel

end C08

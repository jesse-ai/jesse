/-
  Proofs/C17.lean — sizing and numeric helpers never overspend, over-risk or round up.
  All statements are about the definitions GENERATED from jesse/utils.py and jesse/helpers.py,
  over exact rationals (in floats `size_to_qty` can overspend at fee 0: known findings C17-F1/F2).
  `max_timeframe` is read as the first match in the enum taken from its long end
  (Proofs/Lemmas/Pick.lean).
-/
import Jesse.Gen.Utils
import Jesse.Gen.Helpers
import Jesse.Gen.Tables
import Proofs.Lemmas.Num
import Proofs.Lemmas.Pick

namespace C17
open Jesse Jesse.Gen

/-- the size after the code's fee haircut (3 × fee_rate), as `size_to_qty` applies it -/
def haircut (size fee : Rat) : Rat := if fee ≠ 0 then size * (1 - fee * 3) else size

theorem size_to_qty_spec (size price fee : Rat) (p : Int) :
    sizeToQty size price p fee = .ok (floorR (haircut size fee / price * pow10 p) / pow10 p) := by
  unfold sizeToQty floorWithPrecision haircut
  rfl

theorem haircut_le {size fee : Rat} (hs : 0 ≤ size) (hf : 0 ≤ fee) : haircut size fee ≤ size := by
  unfold haircut
  split
  · exact mul_le_of_le_one_right hs (by linarith)
  · exact le_refl _

theorem haircut_nonneg {size fee : Rat} (hs : 0 ≤ size) (hf : fee ≤ 1 / 3) : 0 ≤ haircut size fee := by
  unfold haircut
  split
  · exact mul_nonneg hs (by linarith)
  · exact hs

/-- what the haircut is for: the haircut size plus one fee on it stays within the size -/
theorem haircut_mul_le {size fee : Rat} (hs : 0 ≤ size) (hf : 0 ≤ fee) :
    haircut size fee * (1 + fee) ≤ size := by
  unfold haircut
  split
  · rw [show size * (1 - fee * 3) * (1 + fee) = size - size * (fee * (2 + 3 * fee)) by ring]
    exact sub_le_self _ (mul_nonneg hs (mul_nonneg hf (by linarith)))
  · rw [show fee = 0 from not_not.mp ‹_›]; linarith

/-- A quantity from `size_to_qty` never costs more than the capital, fees included. -/
theorem size_to_qty_cost_le_capital (size price fee : Rat) (p : Int)
    (hs : 0 ≤ size) (hp : 0 < price) (hf0 : 0 ≤ fee) :
    ∃ q, sizeToQty size price p fee = .ok q ∧ q * price * (1 + fee) ≤ size := by
  refine ⟨_, size_to_qty_spec size price fee p, ?_⟩
  have hq := (le_div_iff₀ hp).mp (floorR_mul_div_le (haircut size fee / price) _ (pow10_pos p))
  calc _ ≤ haircut size fee * (1 + fee) := mul_le_mul_of_nonneg_right hq (by linarith)
    _ ≤ size := haircut_mul_le hs hf0

/-- … and it is at most one precision step below the exact quotient (after the haircut). -/
theorem size_to_qty_within_one_step (size price fee : Rat) (p : Int) :
    ∃ q, sizeToQty size price p fee = .ok q ∧
      haircut size fee / price - 1 / pow10 p < q ∧ q ≤ haircut size fee / price :=
  ⟨_, size_to_qty_spec size price fee p, sub_lt_floorR_mul_div _ _ (pow10_pos p), floorR_mul_div_le _ _ (pow10_pos p)⟩

theorem risk_to_size_spec (capital riskPct riskPerQty entry : Rat) (hr : riskPerQty ≠ 0) :
    riskToSize capital riskPct riskPerQty entry =
      .ok (minR (riskPct / 100 * capital / riskPerQty * entry) capital) := by
  unfold riskToSize
  rw [if_neg hr]

/-- `risk_to_qty` is `size_to_qty` of the risk size after a haircut of its own: with a fee the
    haircut is taken twice. -/
theorem risk_to_qty_spec (capital riskPct entry stop fee : Rat) (p : Int) (hne : entry ≠ stop) :
    riskToQty capital riskPct entry stop p fee =
      sizeToQty (haircut (minR (riskPct / 100 * capital / |entry - stop| * entry) capital) fee) entry p fee := by
  unfold riskToQty
  rw [risk_to_size_spec _ _ _ _ (by rw [absR_eq_abs]; exact abs_ne_zero.mpr (sub_ne_zero.mpr hne)),
    absR_eq_abs, size_to_qty_spec]
  rfl

/-- `risk_to_qty`: the quantity, bought at `entry` and stopped out at `stop`, loses at most
    `riskPct` percent of the capital, and costs no more than the capital (fees included). -/
theorem risk_to_qty_risk_le (capital riskPct entry stop fee : Rat) (p : Int)
    (hc : 0 ≤ capital) (hrp : 0 ≤ riskPct) (he : 0 < entry) (hne : entry ≠ stop)
    (hf0 : 0 ≤ fee) (hf1 : fee ≤ 1 / 3) :
    ∃ q, riskToQty capital riskPct entry stop p fee = .ok q ∧
      q * |entry - stop| ≤ riskPct / 100 * capital ∧ q * entry * (1 + fee) ≤ capital := by
  have hd : 0 < |entry - stop| := abs_pos.mpr (sub_ne_zero.mpr hne)
  rw [risk_to_qty_spec _ _ _ _ _ _ hne, size_to_qty_spec, minR_eq_min]
  set sz := min (riskPct / 100 * capital / |entry - stop| * entry) capital
  have hsz : 0 ≤ sz := le_min (by positivity) hc
  have hsz' := haircut_nonneg hsz hf1
  have hq := (le_div_iff₀ he).mp (floorR_mul_div_le (haircut (haircut sz fee) fee / entry) _ (pow10_pos p))
  refine ⟨_, rfl, (le_div_iff₀ hd).mp (le_of_mul_le_mul_right ?_ he), ?_⟩
  · exact hq.trans ((haircut_le hsz' hf0).trans ((haircut_le hsz hf0).trans (min_le_left _ _)))
  · calc _ ≤ haircut (haircut sz fee) fee * (1 + fee) := mul_le_mul_of_nonneg_right hq (by linarith)
      _ ≤ haircut sz fee := haircut_mul_le hsz' hf0
      _ ≤ sz := haircut_le hsz hf0
      _ ≤ capital := min_le_right _ _

/-- `floor_with_precision` / `round_decimals_down` never round up. -/
theorem floor_with_precision_le (x : Rat) (p : Int) : floorWithPrecision x p ≤ x := by
  unfold floorWithPrecision; exact floorR_mul_div_le _ _ (pow10_pos p)

theorem round_decimals_down_le (x : Rat) (d : Int) :
    ∃ r, roundDecimalsDown x d = .ok r ∧ r ≤ x := by
  fun_cases roundDecimalsDown x d
  · exact ⟨_, rfl, floorR_le x⟩
  · exact ⟨_, rfl, floorR_mul_div_le _ _ (pow10_pos d)⟩
  · exact ⟨_, rfl, (le_div_iff₀ (pow10_pos _)).mp (floorR_le _)⟩
  · omega

/-- Stop-loss limiting never widens the risk: the limited stop is at most as far from the entry as
    the original stop.  The second disjunct is the input the code does not guard against: with
    `entry_price * max_allowed_risk_percentage < 0` the `min` is negative and the stop lands on the
    other side of the entry.  The side is `limit_stop_loss_side`. -/
theorem limit_stop_loss_never_widens (entry stop maxRisk : Rat) (t : PosType) :
    |entry - limitStopLoss entry stop t maxRisk| ≤ |entry - stop| ∨ entry * (maxRisk / 100) < 0 := by
  by_cases hneg : entry * (maxRisk / 100) < 0
  · exact Or.inr hneg
  · left
    have hnn : 0 ≤ entry * (maxRisk / 100) := not_lt.mp hneg
    unfold limitStopLoss
    have hm : 0 ≤ minR (absR (entry - stop)) (entry * (maxRisk / 100)) := by
      rw [minR_eq_min]; exact le_min (absR_nonneg _) hnn
    have hle : minR (absR (entry - stop)) (entry * (maxRisk / 100)) ≤ |entry - stop| := by
      rw [← absR_eq_abs]; exact minR_le_left _ _
    split
    · rw [sub_sub_cancel, abs_of_nonneg hm]; exact hle
    · rw [sub_add_cancel_left, abs_neg, abs_of_nonneg hm]; exact hle

/-- The limited stop of a long is not above the entry, of a short not below (same side as a stop). -/
theorem limit_stop_loss_side (entry stop maxRisk : Rat) (h : 0 ≤ entry * (maxRisk / 100)) :
    limitStopLoss entry stop .long maxRisk ≤ entry ∧ entry ≤ limitStopLoss entry stop .short maxRisk := by
  have hm : 0 ≤ minR (absR (entry - stop)) (entry * (maxRisk / 100)) := by
    rw [minR_eq_min]; exact le_min (absR_nonneg _) h
  unfold limitStopLoss
  rw [if_pos rfl, if_neg (by decide)]
  exact ⟨sub_le_self _ hm, le_add_of_nonneg_right hm⟩

/-- minutes of a timeframe according to the (generated) `timeframe_to_one_minutes` table -/
def minutes (t : Timeframe) : Nat := (tfMinutesTable.lookup t).getD 0

/-- The table has exactly one entry for each member of the `timeframes` enum, in enum order. -/
theorem table_covers_enum : tfMinutesTable.map (·.1) = enumTimeframes ∧ enumTimeframes = Timeframe.all := by
  decide +kernel

/-- Every timeframe's length is what its name says. -/
theorem table_values :
    tfMinutesTable.map (·.2) =
      [1, 3, 5, 15, 30, 45, 60, 120, 180, 240, 360, 480, 720, 1440, 4320, 10080, 43200] := by
  decide +kernel

/-- The simulator's own copy of the table (jesse/modes/backtest_mode.py) agrees with it entry by entry. -/
theorem tables_agree : btTfMinutesTable = tfMinutesTable := by decide +kernel

/-- The anchor timeframe is strictly longer than, and a whole multiple of, the timeframe. -/
theorem anchor_is_longer_multiple :
    ∀ e ∈ anchorTable, minutes e.1 < minutes e.2 ∧ minutes e.2 % minutes e.1 = 0 := by
  decide +kernel

/-- the longest member of a list of timeframes, as a fold.  No theorem refers to it:
    `max_timeframe_is_longest` and `max_timeframe_mem` state the same without it. -/
def longest (tfs : List Timeframe) : Timeframe :=
  tfs.foldl (fun a b => if minutes a < minutes b then b else a) .m1

theorem all_sorted : Timeframe.all.reverse.Pairwise (fun a b => minutes b ≤ minutes a) := by
  decide +kernel

theorem mem_all (t : Timeframe) : t ∈ Timeframe.all.reverse := by
  cases t <;> decide

theorem maxTimeframe_eq_find (tfs : List Timeframe) :
    maxTimeframe tfs = (Timeframe.all.reverse.find? (· ∈ tfs)).getD .m1 := by
  simp only [maxTimeframe, Timeframe.all, List.reverse, List.reverseAux, find?_cons_getD (· ∈ tfs),
    List.find?_nil, Option.getD_none, ite_self]

theorem find_eq_maxTimeframe {tfs : List Timeframe} {t : Timeframe} (ht : t ∈ tfs) :
    Timeframe.all.reverse.find? (· ∈ tfs) = some (maxTimeframe tfs) := by
  have h : (Timeframe.all.reverse.find? (· ∈ tfs)).isSome :=
    List.find?_isSome.mpr ⟨t, mem_all t, decide_eq_true ht⟩
  obtain ⟨m, hm⟩ := Option.isSome_iff_exists.mp h
  rw [maxTimeframe_eq_find, hm, Option.getD_some]

/-- `max_timeframe` returns a timeframe at least as long as every member of the list — for every
    list over all seventeen timeframes. -/
theorem max_timeframe_is_longest (tfs : List Timeframe) :
    ∀ t ∈ tfs, minutes t ≤ minutes (maxTimeframe tfs) := fun t ht =>
  (rel_of_find?_eq_some all_sorted (find_eq_maxTimeframe ht) t (mem_all t) (decide_eq_true ht)).elim
    (fun h => h ▸ Nat.le_refl _) id

/-- … and for a non-empty list the result is a member of the list. -/
theorem max_timeframe_mem (tfs : List Timeframe) (hne : tfs ≠ []) : maxTimeframe tfs ∈ tfs :=
  have ⟨_, ht⟩ := List.exists_mem_of_ne_nil tfs hne
  have h := List.find?_some (find_eq_maxTimeframe ht)
  of_decide_eq_true h

/-- regression witness for fix ba7437ff (the 3D / 1W / 1M tests of `max_timeframe`) -/
example : maxTimeframe [.m1, .h1, .d3, .w1] = .w1 := by decide +kernel

end C17

/-
  Proofs/C19.lean — optimizer DNA decodes into in-range, typed, monotone hyperparameters.
  The per-gene decoder is GENERATED (`convert_number`, the body of `dna_to_hp`) and is compared with
  the affine map `affine`; the loop of `dna_to_hp` (`positional`) and `_prepare_routes`
  (`precedence`) are hand models (Jesse/Dna.lean).
-/
import Jesse.Dna
import Jesse.Gen.Tables
import Proofs.Lemmas.Round

namespace C19
open Jesse Jesse.Gen Jesse.Dna

/-- the affine map the decoder is supposed to compute: gene 40 ↦ min, gene 119 ↦ max -/
def affine (d : HpDecl) (g : Nat) : Rat := ((g : Rat) - 40) * (d.max - d.min) / 79 + d.min

/-- Full functional specification of the per-gene decoder on the alphabet `[40, 119]`. -/
theorem decode_spec (d : HpDecl) (g : Nat) (h1 : 40 ≤ g) (h2 : g ≤ 119) :
    decodeGene d g = match d.type with
      | .int => .ok ((roundHalfEven (affine d g) : Int) : Rat)
      | .float => .ok (affine d g)
      | .other => .error .TypeError := by
  have c1 : ¬ (((g : Nat) : Rat) > 119 ∨ ((g : Nat) : Rat) < 40) := by
    push Not
    constructor
    · exact_mod_cast h2
    · exact_mod_cast h1
  have e : convertNumber 119 40 d.max d.min ((g : Nat) : Rat) = .ok (affine d g) := by
    unfold convertNumber affine
    rw [if_neg c1]
    norm_num
  unfold decodeGene
  cases ht : d.type <;> simp [e]

/-- Outside the alphabet the decoder raises (it never extrapolates). -/
theorem decode_rejects_outside (d : HpDecl) (g : Nat) (h : g < 40 ∨ 119 < g) (ht : d.type ≠ .other) :
    decodeGene d g = .error .ValueError := by
  have c1 : (((g : Nat) : Rat) > 119 ∨ ((g : Nat) : Rat) < 40) := by
    rcases h with h | h
    · right; exact_mod_cast h
    · left; exact_mod_cast h
  unfold decodeGene convertNumber
  cases ht' : d.type <;> simp_all

theorem affine_40 (d : HpDecl) : affine d 40 = d.min := by simp [affine]

theorem affine_119 (d : HpDecl) : affine d 119 = d.max := by
  simp only [affine]; push_cast; ring

theorem affine_mono (d : HpDecl) (g₁ g₂ : Nat) (hd : d.min ≤ d.max) (h : g₁ ≤ g₂) :
    affine d g₁ ≤ affine d g₂ := by
  have : (g₁ : Rat) ≤ (g₂ : Rat) := Nat.cast_le.mpr h
  have c : 0 ≤ d.max - d.min := sub_nonneg.mpr hd
  unfold affine
  gcongr

theorem affine_between (d : HpDecl) (g : Nat) (hd : d.min ≤ d.max) (h1 : 40 ≤ g) (h2 : g ≤ 119) :
    d.min ≤ affine d g ∧ affine d g ≤ d.max :=
  ⟨affine_40 d ▸ affine_mono d 40 g hd h1, affine_119 d ▸ affine_mono d g 119 hd h2⟩

/-- float parameters: the decoded value lies in [min, max]. -/
theorem in_range_float (d : HpDecl) (g : Nat) (ht : d.type = .float) (hd : d.min ≤ d.max)
    (h1 : 40 ≤ g) (h2 : g ≤ 119) :
    ∃ v, decodeGene d g = .ok v ∧ d.min ≤ v ∧ v ≤ d.max := by
  refine ⟨affine d g, ?_, affine_between d g hd h1 h2⟩
  rw [decode_spec d g h1 h2, ht]

/-- int parameters (integer bounds): the decoded value is an integer in [min, max]. -/
theorem in_range_int (d : HpDecl) (g : Nat) (lo hi : Int) (ht : d.type = .int)
    (hlo : d.min = lo) (hhi : d.max = hi) (hd : lo ≤ hi) (h1 : 40 ≤ g) (h2 : g ≤ 119) :
    ∃ n : Int, decodeGene d g = .ok (n : Rat) ∧ lo ≤ n ∧ n ≤ hi := by
  have hd' : d.min ≤ d.max := by rw [hlo, hhi]; exact_mod_cast hd
  obtain ⟨a, b⟩ := affine_between d g hd' h1 h2
  rw [hlo] at a; rw [hhi] at b
  refine ⟨roundHalfEven (affine d g), ?_, roundHalfEven_between a b⟩
  rw [decode_spec d g h1 h2, ht]

/-- endpoints: the first letter of the alphabet maps to min, the last to max. -/
theorem endpoints_float (d : HpDecl) (ht : d.type = .float) :
    decodeGene d 40 = .ok d.min ∧ decodeGene d 119 = .ok d.max := by
  rw [decode_spec d 40 (le_refl _) (by norm_num), decode_spec d 119 (by norm_num) (le_refl _), ht,
    affine_40, affine_119]
  exact ⟨rfl, rfl⟩

theorem endpoints_int (d : HpDecl) (lo hi : Int) (ht : d.type = .int) (hlo : d.min = lo) (hhi : d.max = hi) :
    decodeGene d 40 = .ok (lo : Rat) ∧ decodeGene d 119 = .ok (hi : Rat) := by
  rw [decode_spec d 40 (le_refl _) (by norm_num), decode_spec d 119 (by norm_num) (le_refl _), ht,
    affine_40, affine_119, hlo, hhi, roundHalfEven_intCast, roundHalfEven_intCast]
  exact ⟨rfl, rfl⟩

/-- monotone in the gene, for both types (through half-to-even rounding for ints). -/
theorem monotone (d : HpDecl) (g₁ g₂ : Nat) (hd : d.min ≤ d.max) (ht : d.type ≠ .other)
    (h1 : 40 ≤ g₁) (h12 : g₁ ≤ g₂) (h2 : g₂ ≤ 119) :
    ∃ v₁ v₂, decodeGene d g₁ = .ok v₁ ∧ decodeGene d g₂ = .ok v₂ ∧ v₁ ≤ v₂ := by
  have m := affine_mono d g₁ g₂ hd h12
  rw [decode_spec d g₁ h1 (le_trans h12 h2), decode_spec d g₂ (le_trans h1 h12) h2]
  cases ht' : d.type
  · refine ⟨_, _, rfl, rfl, ?_⟩
    exact_mod_cast roundHalfEven_mono m
  · exact ⟨_, _, rfl, rfl, m⟩
  · exact absurd ht' ht

/-- positional: value i of the decoded list is the decoding of gene i under declaration i alone,
    and the result has one value per (gene, declaration) pair (zip truncation). -/
theorem positional (hs : List HpDecl) (dna : List Nat) (vs : List Rat)
    (h : dnaToHp hs dna = .ok vs) :
    vs.length = min hs.length dna.length ∧
    ∀ i (hi : i < vs.length) (h1 : i < hs.length) (h2 : i < dna.length),
      decodeGene hs[i] dna[i] = .ok vs[i] := by
  fun_induction dnaToHp hs dna generalizing vs
  case case3 g gs d ds v hg rest hr ih =>
    cases h
    obtain ⟨l, p⟩ := ih rest hr
    refine ⟨by rw [List.length_cons, l, List.length_cons, List.length_cons, Nat.succ_min_succ],
      fun i hi h1 h2 => ?_⟩
    cases i with
    | zero => exact hg
    | succ j => exact p j (Nat.lt_of_succ_lt_succ hi) (Nat.lt_of_succ_lt_succ h1) (Nat.lt_of_succ_lt_succ h2)
  case case4 hs dna hnc =>
    -- one of the two lists has run out
    cases h
    refine ⟨?_, fun i hi => absurd hi (Nat.not_lt_zero i)⟩
    rcases hs with _ | ⟨d, ds⟩
    · exact (Nat.zero_min _).symm
    · rcases dna with _ | ⟨g, gs⟩
      · exact (Nat.min_zero _).symm
      · exact (hnc g gs d ds rfl rfl).elim
  all_goals cases h

/-- the optimizer's alphabet is exactly the 80 consecutive code points 40 … 119 -/
theorem charset_is_40_to_119 : charsetCodes = List.range' 40 80 := by decide +kernel

/-- every letter of the alphabet decodes (no letter is rejected) for int and float declarations -/
theorem alphabet_decodes (d : HpDecl) (ht : d.type ≠ .other) :
    ∀ g ∈ charsetCodes, ∃ v, decodeGene d g = .ok v := by
  intro g hg
  rw [charset_is_40_to_119] at hg
  have hb : 40 ≤ g ∧ g ≤ 119 := by
    rw [List.mem_range'_1] at hg; omega
  rw [decode_spec d g hb.1 hb.2]
  cases ht' : d.type
  · exact ⟨_, rfl⟩
  · exact ⟨_, rfl⟩
  · exact absurd ht' ht

theorem route_precedence (explicit : Hp) (s : StratDecl) (hp : Hp) (h : prepareRoute explicit s = .ok hp) :
    (∀ v, explicit = some v → hp = some v) ∧
    (explicit = none → s.dna ≠ [] → ∃ v, dnaToHp s.decls s.dna = .ok v ∧ hp = some v) ∧
    (explicit = none → s.dna = [] → s.decls ≠ [] → hp = some s.defaults) ∧
    (explicit = none → s.dna = [] → s.decls = [] → hp = none) := by
  unfold prepareRoute at h
  rcases explicit with _ | w
  · refine ⟨nofun, fun _ hd => ?_, fun _ hd hne => ?_, fun _ hd he => ?_⟩
    · rw [if_pos ⟨List.length_pos_iff.mpr hd, rfl⟩] at h
      cases hdec : dnaToHp s.decls s.dna with
      | error e => rw [hdec] at h; cases h
      | ok v => rw [hdec] at h; cases h; exact ⟨v, rfl, rfl⟩
    · rw [if_neg (by simp [hd]), if_pos (List.length_pos_iff.mpr hne)] at h
      cases h; rfl
    · rw [if_neg (by simp [hd]), if_neg (by simp [he])] at h
      cases h; rfl
  · rw [if_neg (by simp)] at h
    cases h
    exact ⟨fun v hv => hv, nofun, nofun, nofun⟩

/-- Precedence, per route and for any number of routes: explicit values win over dna(), dna() over
    the declared defaults, and each route's values come from its own strategy only. -/
theorem precedence (explicit : Hp) (routes : List StratDecl) (hps : List Hp)
    (h : prepareRoutes explicit routes = .ok hps) :
    hps.length = routes.length ∧
    ∀ i (h1 : i < routes.length) (h2 : i < hps.length),
      (∀ v, explicit = some v → hps[i] = some v) ∧
      (explicit = none → routes[i].dna ≠ [] → ∃ v, dnaToHp routes[i].decls routes[i].dna = .ok v ∧ hps[i] = some v) ∧
      (explicit = none → routes[i].dna = [] → routes[i].decls ≠ [] → hps[i] = some routes[i].defaults) ∧
      (explicit = none → routes[i].dna = [] → routes[i].decls = [] → hps[i] = none) := by
  fun_induction prepareRoutes explicit routes generalizing hps
  case case1 => cases h; exact ⟨rfl, fun i h1 => absurd h1 (Nat.not_lt_zero i)⟩
  case case4 s rest hp hroute hs hrest ih =>
    cases h
    obtain ⟨l, p⟩ := ih hs hrest
    refine ⟨by rw [List.length_cons, l, List.length_cons], fun i h1 h2 => ?_⟩
    cases i with
    | zero => exact route_precedence explicit s hp hroute
    | succ j => exact p j (Nat.lt_of_succ_lt_succ h1) (Nat.lt_of_succ_lt_succ h2)
  all_goals cases h

/-- non-vacuity: a concrete declaration and gene -/
example : decodeGene { type := .int, min := 0, max := 30 } 79 = .ok 15 := by decide +kernel
/-- regression witness for fix cd8cd831: the second route, without a dna(), gets its own defaults
    and not the values decoded for the first -/
example : prepareRoutes none
    [{ decls := [{ type := .int, min := 0, max := 100 }], defaults := [7], dna := [119] },
     { decls := [{ type := .int, min := 0, max := 100 }], defaults := [7], dna := [] }]
    = .ok [some [100], some [7]] := by decide +kernel
example : dnaToHp [{ type := .int, min := 0, max := 30 }, { type := .float, min := -1, max := 1 }] [79, 119]
    = .ok [15, 1] := by decide +kernel

end C19

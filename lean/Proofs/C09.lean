/-
  Proofs/C09.lean — isolated-margin liquidation: the price formulas (GENERATED from
  jesse/models/Position.py) with their closed forms (`liq_spec_*`, `rate_bounds`), and the trigger / force-closing
  order of `_check_for_liquidations` (engine model; `untouched_or_touched` is the one walk over the check), and which
  candle each simulator gives the check, and when.
-/
import Jesse.Gen.Position
-- for the case principle of `checkLiquidation` only: Lemmas/Quiet.lean imports this file and Closed.lean, and the helpers of
-- the generated matcher must not be generated in both
import Proofs.Lemmas.Closed
import Proofs.Lemmas.Num

namespace C09
open Jesse Jesse.Gen

theorem liq_spec_long (p : PosView) (hq : 0 < p.qty) (hm : p.mode = .isolated) :
    liquidationPrice p = .ok (some (p.entry * (1 - 1 / p.leverage + 1 / 250))) ∧
    bankruptcyPrice p = some (p.entry * (1 - 1 / p.leverage)) := by
  have hl : isLong p := hq
  unfold liquidationPrice bankruptcyPrice isClose
  simp [posType, hl, hm, initialMarginRate]

theorem liq_spec_short (p : PosView) (hq : p.qty < 0) (hm : p.mode = .isolated) :
    liquidationPrice p = .ok (some (p.entry * (1 + 1 / p.leverage - 1 / 250))) ∧
    bankruptcyPrice p = some (p.entry * (1 + 1 / p.leverage)) := by
  have hl : ¬ isLong p := by unfold isLong; exact not_lt.mpr (le_of_lt hq)
  have hs : isShort p := by unfold isShort absR; simpa using hq
  unfold liquidationPrice bankruptcyPrice isClose
  simp [posType, hl, hs, hm, initialMarginRate]

/-- `1 / L` is the initial margin rate, `1 / 250` = 0.4 % the maintenance rate -/
theorem rate_bounds {L : Rat} (hL1 : 1 ≤ L) (hL2 : L < 250) : 1 / 250 < 1 / L ∧ 1 / L ≤ 1 := by
  have hL : 0 < L := lt_of_lt_of_le one_pos hL1
  exact ⟨one_div_lt_one_div_of_lt hL hL2, (div_le_one hL).mpr hL1⟩

/-- LONG: for every leverage 1 ≤ L < 250 (in particular every integer leverage 2 … 125) and every
    positive entry price: bankruptcy < liquidation < entry. -/
theorem liq_between_long (p : PosView) (hq : 0 < p.qty) (hm : p.mode = .isolated)
    (he : 0 < p.entry) (hL1 : 1 ≤ p.leverage) (hL2 : p.leverage < 250) :
    ∃ liq bk, liquidationPrice p = .ok (some liq) ∧ bankruptcyPrice p = some bk ∧
      bk < liq ∧ liq < p.entry ∧ 0 ≤ bk := by
  obtain ⟨h1, h2⟩ := liq_spec_long p hq hm
  obtain ⟨r1, r2⟩ := rate_bounds hL1 hL2
  refine ⟨_, _, h1, h2, mul_lt_mul_of_pos_left (lt_add_of_pos_right _ (by norm_num)) he,
    mul_lt_of_lt_one_right he ?_, mul_nonneg he.le (sub_nonneg.mpr r2)⟩
  rw [sub_add, sub_lt_self_iff, sub_pos]; exact r1

/-- SHORT mirrored: entry < liquidation < bankruptcy. -/
theorem liq_between_short (p : PosView) (hq : p.qty < 0) (hm : p.mode = .isolated)
    (he : 0 < p.entry) (hL1 : 1 ≤ p.leverage) (hL2 : p.leverage < 250) :
    ∃ liq bk, liquidationPrice p = .ok (some liq) ∧ bankruptcyPrice p = some bk ∧
      p.entry < liq ∧ liq < bk := by
  obtain ⟨h1, h2⟩ := liq_spec_short p hq hm
  obtain ⟨r1, _⟩ := rate_bounds hL1 hL2
  refine ⟨_, _, h1, h2, lt_mul_of_one_lt_right he ?_, mul_lt_mul_of_pos_left (sub_lt_self _ (by norm_num)) he⟩
  rw [add_sub_assoc, lt_add_iff_pos_right, sub_pos]; exact r1

/-- Cross-margin and spot positions have no liquidation price. -/
theorem cross_and_spot_never (p : PosView) (hm : p.mode = .cross ∨ p.mode = .spot) :
    liquidationPrice p = .ok none := by
  unfold liquidationPrice
  rcases hm with hm | hm <;> simp [hm]

/-- Neither has a closed position. -/
theorem closed_never (p : PosView) (hq : p.qty = 0) : liquidationPrice p = .ok none := by
  unfold liquidationPrice isClose posType isLong isShort absR
  simp [hq]

/-- Loss at the bankruptcy price is exactly the initial margin entry·|qty|/L (before fees). -/
theorem bankruptcy_loss_is_initial_margin (p : PosView) (hm : p.mode = .isolated)
    (hL : p.leverage ≠ 0) (hq : p.qty ≠ 0) :
    ∃ bk, bankruptcyPrice p = some bk ∧
      (if 0 < p.qty then p.qty * (bk - p.entry) else (-p.qty) * (p.entry - bk)) = -(p.entry * |p.qty| / p.leverage) := by
  rcases lt_or_gt_of_ne hq with h | h
  · obtain ⟨_, h2⟩ := liq_spec_short p h hm
    refine ⟨_, h2, ?_⟩
    rw [if_neg (not_lt.mpr (le_of_lt h)), abs_of_neg h]; ring
  · obtain ⟨_, h2⟩ := liq_spec_long p h hm
    refine ⟨_, h2, ?_⟩
    rw [if_pos h, abs_of_pos h]; ring

/-- non-vacuity: leverage 10 long at 100 → liquidation 90.4, bankruptcy 90 -/
example : liquidationPrice { qty := 2, entry := 100, current := 100, leverage := 10, mode := .isolated, hasStrategy := True }
    = .ok (some (452/5)) := by decide +kernel

section trigger
open Jesse.Eng Jesse.Acc
variable {M : Type} [Inhabited M] (u : UserStrategy M)

/-- the position as `_check_for_liquidations` reads it -/
def viewOf (e : Engine M) (sym : Nat) : PosView :=
  { qty := (posOf e sym).qty, entry := (posOf e sym).entry.getD 0, current := (posOf e sym).current.getD 0,
    leverage := e.w.leverage, mode := .isolated, hasStrategy := True }

theorem untouched_or_touched (e : Engine M) (sym : Nat) (c : Candle) :
    checkLiquidation u e sym c = e ∨
      (e.cfg.isolated = true ∧ e.w.kind ≠ .spot ∧ (posOf e sym).qty ≠ 0 ∧
        ∃ liq, liquidationPrice (viewOf e sym) = .ok (some liq) ∧ candleIncludesPrice c liq) := by
  have key : ¬ (¬ e.cfg.isolated ∨ e.w.kind = .spot) → ¬ (posOf e sym).qty = 0 →
      ∀ liq, liquidationPrice (viewOf e sym) = .ok (some liq) → decide (candleIncludesPrice c liq) = true →
      e.cfg.isolated = true ∧ e.w.kind ≠ .spot ∧ (posOf e sym).qty ≠ 0 ∧
        ∃ liq, liquidationPrice (viewOf e sym) = .ok (some liq) ∧ candleIncludesPrice c liq :=
    fun h2 hq liq hl ht =>
      ⟨Decidable.not_not.mp (fun hi => h2 (.inl hi)), fun hk => h2 (.inr hk), hq, liq, hl, of_decide_eq_true ht⟩
  fun_cases checkLiquidation u e sym c
  · exact .inl rfl
  · exact .inl rfl
  · exact .inl rfl
  · exact .inr (key ‹_› ‹_› _ ‹_› ‹_›)
  · exact .inr (key ‹_› ‹_› _ ‹_› ‹_›)
  · exact .inr (key ‹_› ‹_› _ ‹_› ‹_›)
  · exact .inl rfl
  · exact .inl rfl

/-- NEVER WITHOUT A TOUCH: if the liquidation check of a minute (or chunk) changes anything at all, then the
    session is isolated-margin futures, the position is open and the candle's range contains its liquidation price. -/
theorem liquidation_only_when_touched (e : Engine M) (sym : Nat) (c : Candle) (h : checkLiquidation u e sym c ≠ e) :
    e.cfg.isolated = true ∧ e.w.kind ≠ .spot ∧ (posOf e sym).qty ≠ 0 ∧
      ∃ liq, liquidationPrice (viewOf e sym) = .ok (some liq) ∧ candleIncludesPrice c liq :=
  (untouched_or_touched u e sym c).resolve_left h

/-- WHEN TOUCHED: in an isolated-margin futures session with an open position whose liquidation price lies in
    the candle's range, the check submits ONE order — MARKET, reduce-only, on the closing side, for the whole
    position, priced at the bankruptcy price — counts one liquidation, publishes the bigger timeframes up to the
    last stored minute (so that the position hooks read current candles, C07) and executes the order at once
    (hooks included).  Hypotheses besides the touch: the state is not stopped, the exchange accepts the order
    (`hsub`) and a minute is stored (`hlast`). -/
theorem liquidation_when_touched (e : Engine M) (sym : Nat) (c last : Candle) (liq bk : Rat) (w' : World)
    (herr : e.err = none) (hiso : e.cfg.isolated = true) (hk : e.w.kind ≠ .spot) (hq : (posOf e sym).qty ≠ 0)
    (hliq : liquidationPrice (viewOf e sym) = .ok (some liq)) (hbk : bankruptcyPrice (viewOf e sym) = some bk)
    (htouch : candleIncludesPrice c liq)
    (hlast : (storeOf e sym).short.getLast? = some last)
    (hsub : Acc.submit e.w sym (if (posOf e sym).qty > 0 then Side.sell else Side.buy) .market (posOf e sym).qty bk true = .ok w') :
    checkLiquidation u e sym c =
      executeOrder u
        (updatePartialCandle
          (logE (logE { e with w := w', via := e.via ++ [none], storage := upd e.storage sym (· ++ [e.w.orders.length]),
                               liquidations := e.liquidations + 1 }
                  (Event.submit e.w.orders.length sym (Acc.getD w'.orders e.w.orders.length).side (Acc.getD w'.orders e.w.orders.length).type
                    (Acc.getD w'.orders e.w.orders.length).qty (Acc.getD w'.orders e.w.orders.length).price
                    (Acc.getD w'.orders e.w.orders.length).reduceOnly))
                (Event.liquidation sym))
          sym last)
        e.w.orders.length := by
  unfold checkLiquidation
  have h2 : ¬ (¬ e.cfg.isolated ∨ e.w.kind = .spot) := by
    intro h; rcases h with h | h
    · exact h hiso
    · exact hk h
  unfold viewOf at hliq hbk
  unfold storeOf at hlast
  simp only [herr, Option.isSome_none, Bool.false_eq_true, if_false, h2, hq, hliq, hbk, htouch, decide_true, if_true, hsub, storeOf, logE, hlast]

/-! ### which candle the check is given, and when

In the normal simulator the check of a minute runs ONCE, after every resting order of the minute has been matched
(with all the hooks those fills fire), on the state in which the minute is stored and the position is marked at the
minute's close — and it is given the minute candle the matching loop worked on (the jump-fixed row), not the raw row. -/

theorem minute_check_after_matching (fuel : Nat) (e : Engine M) (sym : Nat) (real : Candle) (h0 : e.err = none)
    (h1 : (matchLoop u fuel e sym real
        (let os := executingOrders e sym real; if os.length > 1 then sortExecutionOrders e os [real] else os)
        (fun (e : Engine M) (c : Candle) =>
          let os := executingOrders e sym c; if os.length > 1 then sortExecutionOrders e os [c] else os) false).1.err = none) :
    simulateMinute u fuel e sym real =
      checkLiquidation u
        (setCurrentPrice (addCandle (matchLoop u fuel e sym real
          (let os := executingOrders e sym real; if os.length > 1 then sortExecutionOrders e os [real] else os)
          (fun (e : Engine M) (c : Candle) =>
            let os := executingOrders e sym c; if os.length > 1 then sortExecutionOrders e os [c] else os) false).1 sym 1 real)
          sym real.c) sym real := by
  unfold simulateMinute
  simp only [h0, Option.isSome_none, Bool.false_eq_true, if_false]
  simp only at h1
  simp only [h1, Option.isSome_none, Bool.false_eq_true, if_false]

/-- a minute entered in a stopped state does nothing: no matching, no liquidation check on a broken state -/
theorem minute_no_check_after_error (fuel : Nat) (e : Engine M) (sym : Nat) (real : Candle) (h0 : e.err.isSome) :
    simulateMinute u fuel e sym real = e := by
  unfold simulateMinute
  simp [h0]

/-- `e1` of `simulateChunk`: the state after the per-minute matching of a chunk (untouched when no order lies inside the
    chunk's range) -/
def chunkMatched (fuel : Nat) (e : Engine M) (sym : Nat) (cs : List Candle) (real : Candle) : Engine M :=
  if (executingOrders e sym real).length > 0 then
    simulateChunk.perMinute u fuel sym real cs none e
      (if (executingOrders e sym real).length > 1 then sortExecutionOrders e (executingOrders e sym real) (fixChunk none cs)
       else executingOrders e sym real)
  else e

/-- FAST SIMULATOR: the check of a chunk runs ONCE, after the matching of all its minutes, on the state in which the
    whole chunk is stored and the clock stands at the end of the chunk — and it is given the AGGREGATE candle of the
    chunk (so a liquidation price touched by any minute of the chunk acts at the chunk's end) -/
theorem chunk_check_once_with_aggregate (fuel : Nat) (e : Engine M) (sym : Nat) (cs : List Candle) (real l : Candle)
    (short' : List Candle) (h0 : e.err = none) (hg : Store.generate 0 cs = .ok real)
    (h1 : (chunkMatched u fuel e sym cs real).err = none)
    (hadd : Store.addMultiple1m (storeOf (chunkMatched u fuel e sym cs real) sym).short cs = .ok short')
    (hl : cs.getLast? = some l) :
    simulateChunk u fuel e sym cs =
      setCurrentPrice (checkLiquidation u
        { chunkMatched u fuel e sym cs real with
            stores := Acc.upd (chunkMatched u fuel e sym cs real).stores sym (fun s => { s with short := short' }),
            time := real.ts + 60000 * cs.length } sym real) sym l.c := by
  unfold simulateChunk
  simp only [h0, Option.isSome_none, Bool.false_eq_true, if_false, hg]
  unfold chunkMatched at h1 hadd ⊢
  simp only [h1, Option.isSome_none, Bool.false_eq_true, if_false, hadd, hl]

end trigger

end C09

/-
  Proofs/C06.lean — position events and the trade log are a faithful record of the fills.
  Over the accounts model with the closed-trade fields of Jesse/TradeLog.lean, one futures symbol; vocabulary in
  Proofs/Lemmas/TradeLog.lean.  Everything hangs on the `ledger`, wallet − net PnL of the closed trades − what the fills
  of the running cycle have done to the wallet: every legal fill leaves it unchanged (`fill_step`), and at a flat
  position it is wallet − closed PnL.  Not proved here: the reporting to the strategy hooks and the open/close times of a
  trade (engine correspondence and trade-log oracle, harness/props/c06.py).
-/
import Proofs.Lemmas.TradeLog

namespace C06
open Jesse Jesse.Acc Jesse.Gen TradeLogLemmas

/-- A CLOSED TRADE'S PnL IS THAT OF ITS FILLS: for a long or short trade whose buy and sell quantities match
    (so it is for the trade a closing fill produces: `hQ` in the proof of `fill_step`), `ClosedTrade.pnl` —
    computed from the quantity-weighted entry and exit prices — equals sells' notional − buys' notional −
    fee × (both notionals). -/
theorem closed_trade_pnl (fee : Rat) (t : Trade) (ty : PosType) (hty : t.type = some ty) (hne : ty ≠ .close)
    (hq : qtySum t.buys = qtySum t.sells) (hpos : 0 < qtySum t.buys) :
    Trade.pnl fee t = notional t.sells - notional t.buys - fee * (notional t.buys + notional t.sells) := by
  have hb : qtySum t.buys ≠ 0 := ne_of_gt hpos
  cases ty with
  | close => exact absurd rfl hne
  | long =>
    simp only [Trade.pnl, Trade.entryPrice, Trade.exitPrice, Trade.qty, hty, estimatePNL, ← hq, absR_of_pos hpos,
      reduceCtorEq, if_false, ← sub_div, ← add_div, mul_assoc, mul_div_cancel₀ _ hb]
  | short =>
    simp only [Trade.pnl, Trade.entryPrice, Trade.exitPrice, Trade.qty, hty, estimatePNL, ← hq, absR_of_pos hpos, if_true,
      ← sub_div, ← add_div, mul_assoc, mul_div_cancel₀ _ hb]
    ring

/-- ONE FILL (futures, one symbol): executing a legal order on a well-formed world
    * keeps the world well-formed (position size = recorded buys − recorded sells, a flat position has
      an empty running trade, an open one has a running trade of the position's side),
    * appends the order to the running trade's order list and its (|qty|, price) row to the buy or sell rows,
    * produces EXACTLY ONE closed trade — the running one, with this order as its last — when the fill
      brings the position to zero, and none otherwise,
    * leaves the ledger  wallet − Σ net PnL of closed trades − open-cycle term  unchanged. -/
theorem fill_step (w : World) (p : Pos) (t : Trade) (id : Nat) (o : Order) (hI : Inv w p t) (hL : Legal p o)
    (ho : w.orders[id]? = some o) (ha : o.status = .active) :
    ∃ p' t', Inv (execute w id) p' t'
      ∧ ledger (execute w id) = ledger w
      ∧ p'.qty = p.qty + o.qty
      ∧ (execute w id).trades = (if p.qty + o.qty = 0 then w.trades ++ [recorded t o] else w.trades)
      ∧ (p.qty + o.qty ≠ 0 → t'.orders = t.orders ++ [o.id] ∧ t'.buys = (recorded t o).buys ∧ t'.sells = (recorded t o).sells) := by
  have hR := recorded_spec t hL.side hL.nz
  have hC := charged hI id hL.sym hL.pricePos
  rw [execute_eq ho ha]
  unfold onExecuted
  generalize chargeFee (exchangeOnExecution (addExecutedOrder (setStatus w id .executed) o) o) o = W at hC ⊢
  have hlw : ledger w = w.wallet - closedPnl w - openTerm w.fee p t := by unfold ledger; rw [hI.pos1, hI.temp1]; rfl
  have hpW : getD W.pos o.sym = p := by rw [hC.pos, hL.sym]; rfl
  have hupd : ∀ p', upd W.pos o.sym (fun _ => p') = [p'] := fun p' => by rw [hC.pos, hL.sym]; rfl
  have htW : getD W.temp o.sym = recorded t o := by rw [hC.temp, hL.sym]; rfl
  have hqe := hI.qty_eq
  have hpq : (getD W.pos o.sym).qty = p.qty := congrArg Pos.qty hpW
  fun_cases onExecutedCore W o
  -- open, close, (idle), increase, (clip, flip), reduce, (zero): the bracketed branches contradict `Legal`
  · rename_i h0; rw [hpq] at h0
    obtain ⟨hent, rfl⟩ := hI.flat h0
    rw [mutOpen_futures hC.kind (by rw [hC.pos, hL.sym]; exact Nat.one_pos) hpW, hupd]
    have ht' : upd W.temp o.sym (fun t => { t with type := some (Pos.type { qty := o.qty }), isOpen := true })
        = [{ recorded {} o with type := some (Pos.type { qty := o.qty }), isOpen := true }] := by rw [hC.temp, hL.sym]; rfl
    rw [ht']
    refine ⟨_, _,
      { kind := hC.kind, pos1 := rfl, temp1 := rfl, qty_eq := ?_, flat := fun h => absurd h hL.nz,
        running := fun _ => ⟨⟨_, rfl⟩, rfl, rfl⟩, buysPos := hR.buysPos (by simp), sellsPos := hR.sellsPos (by simp) },
      ?_, by rw [h0, zero_add], ?_, fun _ => ⟨hR.orders, rfl, rfl⟩⟩
    · show o.qty = _
      rw [hR.qty_diff]; simp [qtySum]
    · rw [hlw]
      simp only [ledger, closedPnl, openTerm, getD, hC.wallet, hC.trades, hC.fee, hent, h0, Option.getD_some, Option.getD_none]
      linear_combination w.fee * hR.notional_sum - hR.notional_diff
    · rw [if_neg (by rw [h0, zero_add]; exact hL.nz)]; exact hC.trades
  · rename_i h0 hc; rw [hpq] at h0 hc
    obtain ⟨⟨e, he⟩, hopen, htype⟩ := hI.running h0
    rw [mutClose_futures_open hC.kind hpW he htW (hR.isOpen.trans hopen), hupd, estimatePNL_close _ _ h0]
    have ht' : upd W.temp o.sym (fun _ => ({} : Trade)) = [{}] := by rw [hC.temp, hL.sym]; rfl
    rw [ht']
    have hQ : qtySum (recorded t o).buys = qtySum (recorded t o).sells := by linarith [hR.qty_diff]
    have hpos : 0 < qtySum (recorded t o).buys := by
      have := qtySum_nonneg _ hI.buysPos
      have := qtySum_nonneg _ hI.sellsPos
      have := absR_pos hL.nz
      linarith [hR.qty_sum]
    have hpnl := closed_trade_pnl w.fee (recorded t o) p.type (by rw [hR.type, htype]) (posType_ne_close p h0) hQ hpos
    refine ⟨_, _,
      { kind := hC.kind, pos1 := rfl, temp1 := rfl, qty_eq := by simp [qtySum], flat := fun _ => ⟨rfl, rfl⟩,
        running := fun h => absurd rfl h, buysPos := by simp, sellsPos := by simp },
      ?_, hc.symm, ?_, fun h => absurd hc h⟩
    · rw [hlw]
      simp only [ledger, closedPnl, openTerm, getD, hC.wallet, hC.trades, hC.fee, List.map_append, List.sum_append, List.map_cons,
        List.map_nil, List.sum_cons, List.sum_nil, hpnl, he, Option.getD_some, Option.getD_none,
        show notional ([] : List (Rat × Rat)) = 0 from rfl]
      linear_combination w.fee * hR.notional_sum - hR.notional_diff + o.price * hc
    · rw [if_pos hc, hC.trades]
  · rename_i hd hr; rw [hpq] at hd; rw [hL.roDir hd] at hr; cases hr
  · rename_i h0 hc hd _; rw [hpq] at h0 hc hd
    obtain ⟨⟨e, he⟩, hopen, htype⟩ := hI.running h0
    rw [mutIncrease_futures hC.kind hpW he hd, hupd]
    have hty : ∀ en, Pos.type { p with entry := en, prevQty := p.qty, qty := p.qty + o.qty } = p.type := fun en =>
      Pos.type_eq_of_mul_pos (p := p) (show 0 < p.qty * (p.qty + o.qty) by rw [mul_add]; exact add_pos (mul_self_pos.mpr h0) hd)
    refine ⟨_, recorded t o,
      { kind := hC.kind, pos1 := rfl, temp1 := hC.temp, qty_eq := by rw [hR.qty_diff, ← hqe], flat := fun h => absurd h hc,
        running := fun _ => ⟨⟨_, rfl⟩, hR.isOpen.trans hopen, by rw [hR.type, htype, hty]⟩,
        buysPos := hR.buysPos hI.buysPos, sellsPos := hR.sellsPos hI.sellsPos },
      ?_, rfl, ?_, fun _ => ⟨hR.orders, rfl, rfl⟩⟩
    · rw [hlw]
      simp only [ledger, closedPnl, openTerm, getD, hC.wallet, hC.temp, hC.trades, hC.fee, he, Option.getD_some]
      linear_combination w.fee * hR.notional_sum - hR.notional_diff - averagePrice_signed o.price e hd
    · rw [if_neg hc]; exact hC.trades
  · rename_i hd hsz _; rw [hpq] at hd hsz; exact absurd (hL.noOversize hd) (not_le.mpr hsz)
  · rename_i hd hsz _; rw [hpq] at hd hsz; exact absurd (hL.noOversize hd) (not_le.mpr hsz)
  · rename_i h0 hc _ hd _; rw [hpq] at h0 hc hd
    obtain ⟨⟨e, he⟩, hopen, htype⟩ := hI.running h0
    rw [mutReduce_futures hC.kind hpW he hd, hupd, estimatePNL_reduce _ _ hd]
    have hty : Pos.type { p with prevQty := p.qty, qty := p.qty + o.qty } = p.type := by
      refine Pos.type_eq_of_mul_pos (p := p) (show 0 < p.qty * (p.qty + o.qty) from ?_)
      have hsz := hL.noOversize hd
      rcases lt_or_gt_of_ne h0 with hn | hn
      · rw [absR_of_pos (pos_of_mul_neg_right hd hn.le), absR_of_neg hn] at hsz
        exact mul_pos_of_neg_of_neg hn (lt_of_le_of_ne (by linarith) hc)
      · rw [absR_of_neg (neg_of_mul_neg_right hd hn.le), absR_of_pos hn] at hsz
        exact mul_pos hn (lt_of_le_of_ne (by linarith) (Ne.symm hc))
    refine ⟨_, recorded t o,
      { kind := hC.kind, pos1 := rfl, temp1 := hC.temp, qty_eq := by rw [hR.qty_diff, ← hqe], flat := fun h => absurd h hc,
        running := fun _ => ⟨⟨e, he⟩, hR.isOpen.trans hopen, by rw [hR.type, htype, hty]⟩,
        buysPos := hR.buysPos hI.buysPos, sellsPos := hR.sellsPos hI.sellsPos },
      ?_, rfl, ?_, fun _ => ⟨hR.orders, rfl, rfl⟩⟩
    · rw [hlw]
      simp only [ledger, closedPnl, openTerm, getD, hC.wallet, hC.temp, hC.trades, hC.fee, he, Option.getD_some]
      linear_combination w.fee * hR.notional_sum - hR.notional_diff
    · rw [if_neg hc]; exact hC.trades
  · rename_i h0 _ hd hd'; rw [hpq] at h0 hd hd'
    exact absurd (mul_ne_zero h0 hL.nz) (fun h => h (le_antisymm (not_lt.mp hd) (not_lt.mp hd')))

/-- EVERY HISTORY: after any sequence of legal fills (each order legal against the position it meets)
    the world is still well-formed and the ledger is what it was at the start. -/
theorem history_ledger (w : World) (p : Pos) (t : Trade) (hI : Inv w p t) (ids : List Nat)
    (hlegal : LegalRun w ids) :
    ∃ p' t', Inv (ids.foldl execute w) p' t' ∧ ledger (ids.foldl execute w) = ledger w := by
  induction ids generalizing w p t with
  | nil => exact ⟨p, t, hI, rfl⟩
  | cons id rest ih =>
    obtain ⟨⟨o, ho, ha, hL⟩, hrest⟩ := hlegal
    have hg : getD w.pos 0 = p := by rw [hI.pos1]; rfl
    rw [hg] at hL
    obtain ⟨p1, t1, hI1, hl1, _, _, _⟩ := fill_step w p t id o hI hL ho ha
    obtain ⟨p2, t2, hI2, hl2⟩ := ih (execute w id) p1 t1 hI1 hrest
    exact ⟨p2, t2, by simpa using hI2, by simp only [List.foldl_cons]; rw [hl2, hl1]⟩

/-- NET PROFIT = WALLET CHANGE: start flat with nothing recorded, apply any legal history; whenever the
    position is flat again, the wallet has changed by exactly the sum of the net PnL (profit minus
    fees) of the closed trades produced since — so `net_profit` and `finishing_balance` agree. -/
theorem net_pnl_equals_wallet_change (w : World) (p : Pos) (hI : Inv w p {}) (hflat : p.qty = 0) (ids : List Nat)
    (hlegal : LegalRun w ids) (p' : Pos) (t' : Trade) (hI' : Inv (ids.foldl execute w) p' t') (hflat' : p'.qty = 0) :
    (ids.foldl execute w).wallet - w.wallet = closedPnl (ids.foldl execute w) - closedPnl w := by
  obtain ⟨_, _, _, hl⟩ := history_ledger w p {} hI ids hlegal
  rw [ledger_flat _ p' t' hI' hflat', ledger_flat w p {} hI hflat] at hl
  linarith

/-! ### non-vacuity: buy 2 @ 100, take profit 1 @ 110, stop 1 @ 90 (fee 0.1 %) -/

def ok (r : Except (Err × World) World) : World := match r with | .ok w => w | .error (_, w) => w

def demo : World :=
  let w0 := Acc.init .futures 10000 (1/1000) 1 1
  let w1 := ok (Acc.submit w0 0 .buy .limit 2 100 false)
  let w2 := ok (Acc.submit w1 0 .sell .limit 1 110 true)
  ok (Acc.submit w2 0 .sell .stop 1 90 true)

example : Inv demo {} {} := by
  constructor
  · decide +kernel
  · decide +kernel
  · decide +kernel
  · decide +kernel
  · intro _; exact ⟨rfl, rfl⟩
  · intro h; exact absurd rfl h
  · intro r hr; cases hr
  · intro r hr; cases hr

/-- the three fills are a legal run: open, reduce, close -/
example : LegalRun demo [0, 1, 2] := by
  refine ⟨⟨⟨0, 0, .buy, .limit, 2, 100, false, .active⟩, by decide +kernel, by decide +kernel, ?_⟩,
          ⟨⟨1, 0, .sell, .limit, -1, 110, true, .active⟩, by decide +kernel, by decide +kernel, ?_⟩,
          ⟨⟨2, 0, .sell, .stop, -1, 90, true, .active⟩, by decide +kernel, by decide +kernel, ?_⟩, trivial⟩
  all_goals (constructor <;> decide +kernel)

/-- one closed trade (orders 0, 1, 2), flat again, and the wallet moved by exactly its net PnL:
    110 + 90 − 200 − 0.1 % × (200 + 200) = −0.4 -/
example : ([0, 1, 2].foldl execute demo).trades.map (·.orders) = [[0, 1, 2]]
    ∧ (getD ([0, 1, 2].foldl execute demo).pos 0).qty = 0
    ∧ ([0, 1, 2].foldl execute demo).wallet - demo.wallet = -2/5
    ∧ closedPnl ([0, 1, 2].foldl execute demo) - closedPnl demo = -2/5 := by
  decide +kernel

end C06

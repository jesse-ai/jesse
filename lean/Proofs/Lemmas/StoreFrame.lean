/-
  Proofs/Lemmas/StoreFrame.lean — for C07: what the engine's `addCandle` does to the store of its symbol (`setLong` /
  `longOf` included); a symbol's part of an iteration rewrites only its own input array.
-/
import Jesse.Engine
import Proofs.Lemmas.Upd
import Proofs.Lemmas.ListFacts

namespace StoreFrame
open Jesse Jesse.Eng Jesse.Gen Jesse.Acc

variable {M : Type}

theorem storeOf_addCandle_short (e : Engine M) (sym : Nat) (c : Candle) (hs : sym < e.stores.length) :
    storeOf (addCandle e sym 1 c) sym = { storeOf e sym with short := Store.addCandle (storeOf e sym).short c } :=
  listGetD_upd_same _ _ _ _ hs

theorem storeOf_addCandle_long (e : Engine M) (sym tf : Nat) (g : Candle) (hs : sym < e.stores.length) (htf : tf ≠ 1) :
    storeOf (addCandle e sym tf g) sym = setLong (storeOf e sym) tf (Store.addCandle (longOf (storeOf e sym) tf) g) :=
  (listGetD_upd_same _ _ _ _ hs).trans (if_neg htf)

theorem stores_length_addCandle (e : Engine M) (sym tf : Nat) (c : Candle) :
    (addCandle e sym tf c).stores.length = e.stores.length := by
  unfold addCandle; exact length_upd _ _ _

theorem longOf_setLong_same (s : SymStore) (m : Nat) (cs : List Candle) : longOf (setLong s m cs) m = cs := by
  simp [longOf, setLong]

theorem longOf_setLong_other (s : SymStore) (m m' : Nat) (cs : List Candle) (h : m' ≠ m) :
    longOf (setLong s m cs) m' = longOf s m' := by
  unfold longOf setLong
  have h1 : (m' == m) = false := beq_false_of_ne h
  rw [List.lookup_cons, h1, lookup_filter_ne _ _ _ h]

section inputs
variable [Inhabited M] (u : UserStrategy M)

theorem symStep_inputs (fuel i : Nat) (acc : Engine M × List (List Candle)) (sym s : Nat) (hs : s ≠ sym) :
    (symStep u fuel i acc sym).2.getD s [] = acc.2.getD s [] := by
  fun_cases Eng.symStep u fuel i acc sym
  · rfl
  · rfl
  · exact getD_set_ne _ _ _ hs

theorem symSkip_inputs (fuel i step : Nat) (acc : Engine M × List (List Candle)) (sym s : Nat) (hs : s ≠ sym) :
    (symSkip u fuel i step acc sym).2.getD s [] = acc.2.getD s [] := by
  fun_cases Eng.symSkip u fuel i step acc sym
  · rfl
  · exact getD_set_ne _ _ _ hs

end inputs

end StoreFrame

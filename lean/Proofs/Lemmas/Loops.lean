/-
  Proofs/Lemmas/Loops.lean — how a predicate or a relation travels through a conditional and through a `foldl`
  (the shape of every loop of the engine model).  Core Lean only.
-/
import Jesse.Basic

namespace Jesse

theorem ite_keeps {α} {P : α → Prop} {c : Prop} [Decidable c] {a b : α} (ha : P a) (hb : P b) : P (if c then a else b) :=
  ite_elim P c a b (fun _ => ha) (fun _ => hb)

theorem foldl_keeps {α β} {P : β → Prop} {g : β → α → β} (hg : ∀ b x, P b → P (g b x)) (l : List α) {b : β} (hp : P b) :
    P (l.foldl g b) := by
  induction l generalizing b with
  | nil => exact hp
  | cons x xs ih => exact ih (hg b x hp)

theorem foldl_keeps_fst {α β γ} {P : β → Prop} {g : β × γ → α → β × γ} (hg : ∀ acc x, P acc.1 → P (g acc x).1) (l : List α)
    {acc : β × γ} (hp : P acc.1) : P (l.foldl g acc).1 :=
  foldl_keeps (P := fun acc : β × γ => P acc.1) hg l hp

theorem foldl_keeps_snd {α β γ} {P : γ → Prop} {g : β × γ → α → β × γ} (hg : ∀ acc x, P acc.2 → P (g acc x).2) (l : List α)
    {acc : β × γ} (hp : P acc.2) : P (l.foldl g acc).2 :=
  foldl_keeps (P := fun acc : β × γ => P acc.2) hg l hp

/-- `Q` holds until the loop meets `a`, `P` from then on -/
theorem foldl_hits {α β} {P Q : β → Prop} {g : β → α → β} {a : α} (hq : ∀ b x, Q b → Q (g b x))
    (hit : ∀ b, Q b → P (g b a)) (hp : ∀ b x, P b → P (g b x)) {l : List α} (ha : a ∈ l) {b : β} (hb : Q b) :
    P (l.foldl g b) := by
  induction l generalizing b with
  | nil => cases ha
  | cons x xs ih =>
    rcases List.mem_cons.mp ha with rfl | h
    · exact foldl_keeps hp xs (hit b hb)
    · exact ih h (hq b x hb)

/-- the step may assume that its item is in the list: C01 needs the bound on the iteration index -/
theorem foldl_rel {α β} {R : β → β → Prop} {f g : β → α → β} {l : List α}
    (h : ∀ s ∈ l, ∀ x y, R x y → R (f x s) (g y s)) {x y : β} (hxy : R x y) : R (l.foldl f x) (l.foldl g y) := by
  induction l generalizing x y with
  | nil => exact hxy
  | cons s ss ih =>
    exact ih (fun t ht => h t (List.mem_cons_of_mem _ ht)) (h s List.mem_cons_self x y hxy)

theorem foldl_range_inv {σ : Type} (step : σ → Nat → σ) (err : σ → Prop) (I : Nat → σ → Prop) (s0 : σ) (N : Nat) (h0 : I 0 s0)
    (herr : ∀ s k, err s → err (step s k))
    (hstep : ∀ s k, k < N → I k s → err (step s k) ∨ I (k + 1) (step s k)) :
    ∀ n, n ≤ N → err ((List.range n).foldl step s0) ∨ I n ((List.range n).foldl step s0) := by
  intro n
  induction n with
  | zero => exact fun _ => Or.inr h0
  | succ k ih =>
    intro hk
    rw [List.range_succ, List.foldl_append]
    exact (ih (Nat.le_of_succ_le hk)).elim (fun h => Or.inl (herr _ k h)) (hstep _ k hk)

end Jesse

/-
  Proofs/Lemmas/Store.lean — what `add_candle` of the list model of the candle store (Jesse/Store.lean) does, case by
  case, and what its search for a stored timestamp replaces.
-/
import Jesse.Store

namespace Jesse.Store

theorem replaceFirst_nomatch (s : List Candle) (c : Candle) (h : ∀ y ∈ s, y.ts ≠ c.ts) : replaceFirst s c = s := by
  induction s with
  | nil => rfl
  | cons y ys ih =>
    rw [replaceFirst, if_neg (h y List.mem_cons_self), ih (fun z hz => h z (List.mem_cons_of_mem _ hz))]

theorem replaceFirst_at (s t : List Candle) (x c : Candle) (h : ∀ y ∈ s, y.ts ≠ c.ts) (hx : x.ts = c.ts) :
    replaceFirst (s ++ x :: t) c = s ++ c :: t := by
  induction s with
  | nil => exact if_pos hx
  | cons y ys ih =>
    rw [List.cons_append, replaceFirst, if_neg (h y List.mem_cons_self),
      ih (fun z hz => h z (List.mem_cons_of_mem _ hz)), List.cons_append]

theorem replaceFromEnd_nomatch (l : List Candle) (c : Candle) (h : ∀ y ∈ l, y.ts ≠ c.ts) : replaceFromEnd l c = l := by
  rw [replaceFromEnd, replaceFirst_nomatch _ _ (fun y hy => h y (List.mem_reverse.mp hy)), List.reverse_reverse]

theorem replaceFromEnd_at (s t : List Candle) (x c : Candle) (h : ∀ y ∈ t, y.ts ≠ c.ts) (hx : x.ts = c.ts) :
    replaceFromEnd (s ++ x :: t) c = s ++ c :: t := by
  rw [replaceFromEnd, List.reverse_append, List.reverse_cons, List.append_assoc, List.singleton_append,
    replaceFirst_at _ _ _ _ (fun y hy => h y (List.mem_reverse.mp hy)) hx, List.reverse_append, List.reverse_cons,
    List.reverse_reverse, List.reverse_reverse, List.append_assoc, List.singleton_append]

theorem replaceFromEnd_set (l : List Candle) (c x : Candle) (k : Nat) (hk : l[k]? = some x) (hx : x.ts = c.ts)
    (hno : ∀ y ∈ l.drop (k + 1), y.ts ≠ c.ts) : replaceFromEnd l c = l.set k c := by
  obtain ⟨hlt, rfl⟩ := List.getElem?_eq_some_iff.mp hk
  have hsplit : l = l.take k ++ l[k] :: l.drop (k + 1) := by
    rw [← List.drop_eq_getElem_cons hlt, List.take_append_drop]
  conv => lhs; rw [hsplit]
  rw [replaceFromEnd_at _ _ _ _ hno hx, List.set_eq_take_append_cons_drop, if_pos hlt]

theorem addCandle_zero (arr : List Candle) (c : Candle) (hz : c.ts = 0) : addCandle arr c = arr := if_pos hz

theorem addCandle_nil (c : Candle) (hz : c.ts ≠ 0) : addCandle [] c = [c] := by rw [addCandle, if_neg hz]; rfl

section last
variable {arr : List Candle} {last : Candle} (hl : arr.getLast? = some last) (c : Candle) (hz : c.ts ≠ 0)
include hl hz

theorem addCandle_new (hgt : last.ts < c.ts) : addCandle arr c = arr ++ [c] := by
  rw [addCandle, if_neg hz, hl]; exact if_pos hgt

theorem addCandle_last (heq : c.ts = last.ts) : addCandle arr c = arr.dropLast ++ [c] := by
  rw [addCandle, if_neg hz, hl]
  exact (if_neg (by omega)).trans (if_pos heq)

theorem addCandle_older (hlt : c.ts < last.ts) : addCandle arr c = replaceFromEnd arr c := by
  rw [addCandle, if_neg hz, hl]
  exact (if_neg (by omega)).trans (if_neg (by omega))

end last

theorem addCandle_later (arr : List Candle) (c : Candle) (hz : c.ts ≠ 0)
    (h : ∀ last, arr.getLast? = some last → last.ts < c.ts) : addCandle arr c = arr ++ [c] := by
  cases hl : arr.getLast? with
  | none => rw [List.getLast?_eq_none_iff.mp hl]; exact addCandle_nil c hz
  | some last => exact addCandle_new hl c hz (h last hl)

/-- `V ++ partials` is the shape of a long array that is right up to a row (`C07.UpTo`): complete candles, then at most
    one candle for the window being written -/
theorem addCandle_onto_partial (V partials : List Candle) (g : Candle) (hg : g.ts ≠ 0) (hV : ∀ v ∈ V, v.ts < g.ts)
    (hp : partials = [] ∨ ∃ p, partials = [p] ∧ p.ts = g.ts) : addCandle (V ++ partials) g = V ++ [g] := by
  rcases hp with rfl | ⟨p, rfl, hp⟩
  · rw [List.append_nil]
    exact addCandle_later V g hg fun last hl => hV last (List.mem_of_getLast? hl)
  · rw [addCandle_last List.getLast?_concat g hg hp.symm, List.dropLast_concat]

end Jesse.Store

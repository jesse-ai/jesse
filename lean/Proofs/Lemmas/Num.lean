/-
  Proofs/Lemmas/Num.lean — the numeric vocabulary of Jesse/Basic.lean (`absR`, `minR`, `maxR`, `floorR`, `pow10`, written there
  in core Lean only) tied to Mathlib's `|·|`, `min`, `max` and order lemmas.  (single Mathlib modules only)
-/
import Jesse.Basic
import Mathlib.Algebra.Order.Field.Rat
import Mathlib.Tactic.Linarith
import Mathlib.Tactic.Positivity
import Mathlib.Tactic.FieldSimp
import Mathlib.Tactic.Ring
import Mathlib.Tactic.LinearCombination

namespace Jesse

theorem pow10_pos (p : Int) : 0 < pow10 p := by
  unfold pow10
  split
  · positivity
  · positivity

theorem pow10_ne_zero (p : Int) : pow10 p ≠ 0 := ne_of_gt (pow10_pos p)

theorem pow10_nonneg_int (p : Int) (hp : 0 ≤ p) : pow10 p = (10 : Rat) ^ p.toNat := by
  unfold pow10; simp [hp]

theorem floorR_le (x : Rat) : floorR x ≤ x := Rat.floor_le x

theorem lt_floorR_add_one (x : Rat) : x < floorR x + 1 := by
  have h := Rat.lt_floor_add_one x
  unfold floorR
  push_cast at h
  exact h

theorem absR_eq_abs (x : Rat) : absR x = |x| := by
  unfold absR
  split
  · rw [abs_of_neg ‹_›]
  · rw [abs_of_nonneg (not_lt.mp ‹_›)]

theorem absR_nonneg (x : Rat) : 0 ≤ absR x := by rw [absR_eq_abs]; exact abs_nonneg x
theorem absR_absR (x : Rat) : absR (absR x) = absR x := by rw [absR_eq_abs, absR_eq_abs, abs_abs]
theorem absR_mul (x y : Rat) : absR (x * y) = absR x * absR y := by simp only [absR_eq_abs, abs_mul]
theorem absR_neg (x : Rat) : absR (-x) = absR x := by rw [absR_eq_abs, absR_eq_abs, abs_neg]
theorem absR_of_pos {x : Rat} (h : 0 < x) : absR x = x := by rw [absR_eq_abs]; exact abs_of_pos h
theorem absR_of_neg {x : Rat} (h : x < 0) : absR x = -x := by rw [absR_eq_abs]; exact abs_of_neg h
theorem absR_pos {x : Rat} (h : x ≠ 0) : 0 < absR x := by rw [absR_eq_abs]; exact abs_pos.mpr h

theorem minR_eq_min (a b : Rat) : minR a b = min a b := by
  unfold minR
  split
  · rw [min_eq_right (le_of_lt ‹_›)]
  · rw [min_eq_left (not_lt.mp ‹_›)]

theorem maxR_eq_max (a b : Rat) : maxR a b = max a b := by
  unfold maxR
  split
  · rw [max_eq_right (le_of_lt ‹_›)]
  · rw [max_eq_left (not_lt.mp ‹_›)]

theorem minR_le_left (a b : Rat) : minR a b ≤ a := minR_eq_min a b ▸ min_le_left a b
theorem minR_le_right (a b : Rat) : minR a b ≤ b := minR_eq_min a b ▸ min_le_right a b

theorem maxR_self (a : Rat) : maxR a a = a := if_neg (lt_irrefl a)

theorem maxR_scale (k a b : Rat) (hk : 0 < k) : maxR (k * a) (k * b) = k * maxR a b := by
  simp only [maxR, mul_lt_mul_iff_right₀ hk, mul_ite]

theorem minR_sub_one (x m : Rat) : minR (x - 1) (m - 1) = minR x m - 1 := by
  simp only [minR, sub_lt_sub_iff_right, ite_sub]

theorem floorR_mul_div_le (x s : Rat) (hs : 0 < s) : floorR (x * s) / s ≤ x := by
  rw [div_le_iff₀ hs]; exact floorR_le _

theorem sub_lt_floorR_mul_div (x s : Rat) (hs : 0 < s) : x - 1 / s < floorR (x * s) / s := by
  rw [lt_div_iff₀ hs, sub_mul, div_mul_cancel₀ _ hs.ne']
  exact sub_lt_iff_lt_add.mpr (lt_floorR_add_one (x * s))

end Jesse

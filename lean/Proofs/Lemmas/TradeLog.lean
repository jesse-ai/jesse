/-
  Proofs/Lemmas/TradeLog.lean — for C06, on a one-symbol futures world: the vocabulary of its statements, and what recording
  a fill and charging its fee do (`recorded_spec`, `charged`) before `onExecutedCore` takes over.
-/
import Jesse.TradeLog
import Proofs.Lemmas.Fill

namespace TradeLogLemmas
open Jesse Jesse.Acc Jesse.Gen

theorem qtySum_append (a : List (Rat × Rat)) (x : Rat × Rat) : qtySum (a ++ [x]) = qtySum a + x.1 := by
  simp [qtySum, List.sum_append]
theorem notional_append (a : List (Rat × Rat)) (x : Rat × Rat) : notional (a ++ [x]) = notional a + x.1 * x.2 := by
  simp [notional, List.sum_append]

theorem qtySum_nonneg (a : List (Rat × Rat)) (h : ∀ r ∈ a, 0 < r.1) : 0 ≤ qtySum a :=
  List.sum_nonneg fun x hx => by
    obtain ⟨r, hr, rfl⟩ := List.mem_map.mp hx
    exact (h r hr).le

/-- the open-cycle term of the ledger identity: what the fills of the running cycle have done to the
    wallet, given the rows recorded so far and the position they left -/
def openTerm (fee : Rat) (p : Pos) (t : Trade) : Rat :=
  -(fee * (notional t.buys + notional t.sells)) + notional t.sells - notional t.buys + p.qty * p.entry.getD 0

def closedPnl (w : World) : Rat := (w.trades.map (Trade.pnl w.fee)).sum

def ledger (w : World) : Rat := w.wallet - closedPnl w - openTerm w.fee (getD w.pos 0) (getD w.temp 0)

/-- well-formedness of a one-symbol futures world between fills -/
structure Inv (w : World) (p : Pos) (t : Trade) : Prop where
  kind : w.kind = .futures
  pos1 : w.pos = [p]
  temp1 : w.temp = [t]
  qty_eq : p.qty = qtySum t.buys - qtySum t.sells
  flat : p.qty = 0 → p.entry = none ∧ t = {}
  running : p.qty ≠ 0 → (∃ e, p.entry = some e) ∧ t.isOpen = true ∧ t.type = some p.type
  buysPos : ∀ r ∈ t.buys, 0 < r.1
  sellsPos : ∀ r ∈ t.sells, 0 < r.1

/-- the fills the property's cycles are made of: a non-zero quantity whose sign matches the side, at a
    positive price; a reduce-only order only against an open position and never in the position's own
    direction; no order larger than the position it reduces (oversize reduce-only orders and flips are
    the known findings C06-F1 / C06-F2) -/
structure Legal (p : Pos) (o : Order) : Prop where
  sym : o.sym = 0
  nz : o.qty ≠ 0
  pricePos : 0 < o.price
  side : (o.side = .buy ↔ 0 < o.qty)
  roOpen : o.reduceOnly = true → p.qty ≠ 0
  roDir : p.qty * o.qty > 0 → o.reduceOnly = false
  noOversize : p.qty * o.qty < 0 → absR o.qty ≤ absR p.qty

theorem absR_pos_of_ne (x : Rat) (h : x ≠ 0) : 0 < absR x := absR_pos h

theorem absR_absR (x : Rat) : absR (absR x) = absR x := Jesse.absR_absR x

/-- the running trade after the executed order is appended (`add_executed_order`) -/
def recorded (t : Trade) (o : Order) : Trade :=
  if o.side = .buy then { t with orders := t.orders ++ [o.id], buys := t.buys ++ [(absR o.qty, o.price)] }
  else { t with orders := t.orders ++ [o.id], sells := t.sells ++ [(absR o.qty, o.price)] }

/-- what recording `o` does to the trade under construction, in signed quantities so that one statement serves buys
    and sells -/
structure Recorded (t : Trade) (o : Order) : Prop where
  type : (recorded t o).type = t.type
  isOpen : (recorded t o).isOpen = t.isOpen
  orders : (recorded t o).orders = t.orders ++ [o.id]
  qty_diff : qtySum (recorded t o).buys - qtySum (recorded t o).sells = qtySum t.buys - qtySum t.sells + o.qty
  notional_diff :
    notional (recorded t o).sells - notional (recorded t o).buys = notional t.sells - notional t.buys - o.qty * o.price
  notional_sum :
    notional (recorded t o).buys + notional (recorded t o).sells = notional t.buys + notional t.sells + absR o.qty * o.price
  qty_sum : qtySum (recorded t o).buys + qtySum (recorded t o).sells = qtySum t.buys + qtySum t.sells + absR o.qty
  buysPos : (∀ r ∈ t.buys, 0 < r.1) → ∀ r ∈ (recorded t o).buys, 0 < r.1
  sellsPos : (∀ r ∈ t.sells, 0 < r.1) → ∀ r ∈ (recorded t o).sells, 0 < r.1

theorem recorded_spec (t : Trade) {o : Order} (hside : o.side = .buy ↔ 0 < o.qty) (hnz : o.qty ≠ 0) : Recorded t o := by
  have hmem : ∀ (l : List (Rat × Rat)), (∀ r ∈ l, 0 < r.1) → ∀ r ∈ l ++ [(absR o.qty, o.price)], 0 < r.1 := by
    intro l hl r hr
    rcases List.mem_append.mp hr with h | h
    · exact hl r h
    · rw [List.mem_singleton.mp h]; exact absR_pos hnz
  by_cases hb : o.side = .buy
  · have e : recorded t o = _ := if_pos hb
    have hq := absR_of_pos (hside.mp hb)
    exact {
      type := by rw [e], isOpen := by rw [e], orders := by rw [e]
      qty_diff := by rw [e]; simp only [qtySum_append, hq]; ring
      notional_diff := by rw [e]; simp only [notional_append, hq]; ring
      notional_sum := by rw [e]; simp only [notional_append, hq]; ring
      qty_sum := by rw [e]; simp only [qtySum_append, hq]; ring
      buysPos := by rw [e]; exact hmem _
      sellsPos := by rw [e]; exact id }
  · have e : recorded t o = _ := if_neg hb
    have hq := absR_of_neg (lt_of_le_of_ne (not_lt.mp (fun h => hb (hside.mpr h))) hnz)
    exact {
      type := by rw [e], isOpen := by rw [e], orders := by rw [e]
      qty_diff := by rw [e]; simp only [qtySum_append, hq]; ring
      notional_diff := by rw [e]; simp only [notional_append, hq]; ring
      notional_sum := by rw [e]; simp only [notional_append, hq]; ring
      qty_sum := by rw [e]; simp only [qtySum_append, hq]; ring
      buysPos := by rw [e]; exact id
      sellsPos := by rw [e]; exact hmem _ }

/-- `W` is the state `Order.execute` hands to `onExecutedCore`: the fee is charged and the order recorded in the running
    trade; the order table and the margin rows play no part afterwards -/
structure Charged (w : World) (p : Pos) (t : Trade) (o : Order) (W : World) : Prop where
  wallet : W.wallet = w.wallet - absR o.qty * o.price * w.fee
  pos : W.pos = [p]
  temp : W.temp = [recorded t o]
  trades : W.trades = w.trades
  fee : W.fee = w.fee
  kind : W.kind = .futures

theorem charged {w : World} {p : Pos} {t : Trade} (hI : Inv w p t) (id : Nat) {o : Order} (hs : o.sym = 0)
    (hp : 0 < o.price) :
    Charged w p t o (chargeFee (exchangeOnExecution (addExecutedOrder (setStatus w id .executed) o) o) o) := by
  have ht : (addExecutedOrder (setStatus w id .executed) o).temp = [recorded t o] := by
    unfold addExecutedOrder setStatus recorded
    simp only [hI.temp1, hs, upd]
  obtain ⟨br, sr, h⟩ := exchangeOnExecution_futures (w := addExecutedOrder (setStatus w id .executed) o) hI.kind o
  rw [chargeFee_futures (by rw [h]; exact hI.kind), h]
  exact ⟨by rw [absR_mul, absR_of_pos hp]; rfl, hI.pos1, ht, rfl, rfl, hI.kind⟩

theorem posType_ne_close (p : Pos) (h : p.qty ≠ 0) : p.type ≠ .close := by
  rcases lt_or_gt_of_ne h with h | h
  · rw [Pos.type_of_neg h]; decide
  · rw [Pos.type_of_pos h]; decide

def LegalRun (w : World) : List Nat → Prop
  | [] => True
  | id :: rest => (∃ o, w.orders[id]? = some o ∧ o.status = .active ∧ Legal (getD w.pos 0) o) ∧ LegalRun (execute w id) rest

theorem ledger_flat (w : World) (p : Pos) (t : Trade) (hI : Inv w p t) (hflat : p.qty = 0) :
    ledger w = w.wallet - closedPnl w := by
  obtain ⟨_, ht⟩ := hI.flat hflat
  unfold ledger
  rw [hI.pos1, hI.temp1, ht]
  simp [getD, openTerm, notional, hflat]

end TradeLogLemmas

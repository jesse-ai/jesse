/-
  Proofs/Lemmas/Kernels.lean — the kernels of Jesse/Ind that are built from several combinators are `Online`: one
  walk over each kernel's structure, from which C13 takes causality and C14 length preservation.  The kernels that
  are a single combinator (`sma`, `ema`, `ema0`, `trR`, `smaO`) appear where a walk needs them as a named part.
-/
import Proofs.Lemmas.Causal
import Jesse.Ind.MA
import Jesse.Ind.Simple
import Jesse.Ind.Osc
import Jesse.Ind.Dir

namespace Jesse.Ind

theorem online_sma (p : Nat) : Online (sma p) := online_trailing _ _
theorem online_ema (p : Nat) : Online (ema p) := online_scanState _ _
theorem online_ema0 (a : Rat) : Online (ema0 a) := online_scanState _ _

theorem online_dema (p : Nat) : Online (dema p) :=
  online_comp (g := List.map some)
    (online_zipWith _ (online_ema0 _) (online_comp (online_ema0 _) (online_ema0 _)))
    (online_map _)

theorem online_tema (p : Nat) : Online (tema p) :=
  online_comp (g := List.map some)
    (online_zipWith _
      (online_zipWith _ (online_ema0 _) (online_comp (online_ema0 _) (online_ema0 _)))
      (online_comp (online_comp (online_ema0 _) (online_ema0 _)) (online_ema0 _)))
    (online_map _)

theorem online_trR : Online trR := online_scanState _ _

theorem online_trange : Online trange := online_comp (g := List.map some) online_trR (online_map _)

theorem online_atr (p : Nat) : Online (atr p) :=
  online_comp (g := seeded p (wilderUpd p)) online_trR (online_scanState _ _)

theorem online_macdLine (f s : Nat) : Online (macdLine f s) :=
  online_zipWith _ (online_ema0 _) (online_ema0 _)

theorem online_macdSignal (f s g : Nat) : Online (macdSignal f s g) :=
  online_comp (g := ema0 (alphaOf g)) (online_macdLine f s) (online_ema0 _)

theorem online_macdHist (f s g : Nat) : Online (macdHist f s g) :=
  online_zipWith _ (online_macdLine f s) (online_macdSignal f s g)

theorem online_smaO (p : Nat) : Online (smaO p) := online_trailing _ _

theorem online_stochK (fk sk : Nat) : Online (stochK fk sk) :=
  online_comp (f := stochRaw fk) (online_trailing _ _) (online_smaO sk)

theorem online_stochD (fk sk sd : Nat) : Online (stochD fk sk sd) :=
  online_comp (g := smaO sd) (online_stochK fk sk) (online_smaO sd)

theorem online_stochfD (p fd : Nat) : Online (stochfD p fd) :=
  online_comp (f := stochfK p) (online_pmap _) (online_smaO fd)

theorem online_cci (p : Nat) : Online (cci p) :=
  online_comp (g := trailing p (cciWin p)) (online_map tpOf) (online_trailing _ _)

theorem online_mfi (p : Nat) : Online (mfi p) :=
  online_comp (f := mfiFlows) (online_pmap _) (online_trailing _ _)

/-- `mid ± c·dev`, the shape of the Bollinger and Keltner bands -/
theorem online_band {α} (op : Option Rat → Option Rat → Option Rat) (c : Rat) {mid dev : List α → Ser}
    (hm : Online mid) (hd : Online dev) :
    Online (fun xs => List.zipWith op (mid xs) ((dev xs).map (oscale c))) :=
  online_zipWith op hm (online_comp hd (online_map _))

theorem online_bb (op : Option Rat → Option Rat → Option Rat) (sqrt : Rat → Rat) (p : Nat) (c : Rat) :
    Online (fun xs => List.zipWith op (sma p xs) ((bbDev sqrt p xs).map (oscale c))) :=
  online_band op c (online_sma p) (dev := bbDev sqrt p) (online_trailing _ _)

theorem online_keltnerMiddle (p : Nat) (s : Source) : Online (keltnerMiddle p s) :=
  online_comp (f := source s) (online_map s.get) (online_ema p)

theorem online_keltner (op : Option Rat → Option Rat → Option Rat) (p : Nat) (m : Rat) (s : Source) :
    Online (fun cs => List.zipWith op (ema p (source s cs)) ((atr p cs).map (oscale m))) :=
  online_band op m (online_keltnerMiddle p s) (online_atr p)

/-- one component of a scan that yields pairs (`dm`, `di`) -/
theorem online_scan_proj {σ α β γ} (step : σ → α → σ × Option β) (s : σ) (pr : β → γ) :
    Online (fun xs => (scanState step s xs).map (Option.map pr)) :=
  online_comp (online_scanState step s) (online_map _)

end Jesse.Ind

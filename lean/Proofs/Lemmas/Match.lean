/-
  Proofs/Lemmas/Match.lean — what C02 needs of the matching loop.  The walk `firstHit` takes the head of a list whose
  members can all be hit; the sort over a single candle is `pathOrder`, whose head is the price the path reaches first, so
  the split at it leaves every other candidate inside the remaining candle (`head_first_on_path`); and the loop returns
  without an error only when a walk finds nothing to hit (`matchLoop_returns`).
-/
import Proofs.Lemmas.Sort
import Proofs.Lemmas.ListFacts
import Proofs.Lemmas.Closed
import Proofs.C08

namespace MatchLemmas
open Jesse Jesse.Eng Jesse.Gen SortLemmas

variable {M : Type}

theorem mem_executingOrders (e : Engine M) (sym : Nat) (c : Candle) (id : Nat) :
    id ∈ executingOrders e sym c ↔
      id ∈ Acc.getD e.w.active sym ∧ (orderOf e id).status = .active ∧ candleIncludesPrice c (orderOf e id).price := by
  unfold executingOrders
  simp [List.mem_filter]

theorem executing_included (e : Engine M) (sym : Nat) (c : Candle) :
    ∀ id ∈ executingOrders e sym c, candleIncludesPrice c (orderOf e id).price :=
  fun id h => ((mem_executingOrders e sym c id).mp h).2.2

theorem firstHit_eq_none (e : Engine M) (c : Candle) (l : List Nat) :
    matchLoop.firstHit e c l = none ↔
      ∀ id ∈ l, (orderOf e id).status = .active → ¬ candleIncludesPrice c (orderOf e id).price := by
  fun_induction matchLoop.firstHit e c l
  · exact ⟨fun _ _ h => (nomatch h), fun _ => rfl⟩
  · rename_i hna ih
    rw [ih, List.forall_mem_cons]
    exact ⟨fun hn => ⟨fun ha => absurd ha hna, hn⟩, And.right⟩
  · rename_i ha hin
    refine ⟨fun hn => (nomatch hn), fun hn => ?_⟩
    exact absurd (of_decide_eq_true hin) (hn _ List.mem_cons_self (Decidable.not_not.mp ha))
  · rename_i hout ih
    rw [ih, List.forall_mem_cons]
    exact ⟨fun hn => ⟨fun _ hin => hout (decide_eq_true hin), hn⟩, And.right⟩

theorem firstHit_head (e : Engine M) (c : Candle) (l : List Nat)
    (hall : ∀ x ∈ l, (orderOf e x).status = .active ∧ candleIncludesPrice c (orderOf e x).price) :
    matchLoop.firstHit e c l = l.head? := by
  cases l with
  | nil => rfl
  | cons x xs =>
    obtain ⟨h1, h2⟩ := hall x List.mem_cons_self
    unfold matchLoop.firstHit
    rw [if_neg (not_not_intro h1), if_pos (decide_eq_true h2)]; rfl

/-- the order in which the price path of candle `c` (open, high, low, close if it falls; open, low, high, close otherwise)
    reaches the prices of `os`, all inside `c` -/
def pathOrder (price : Nat → Rat) (c : Candle) (os : List Nat) : List Nat :=
  os.filter (fun id => price id = c.o) ++
    if c.o > c.c then
      sortedBy price false (os.filter (fun id => price id > c.o)) ++ sortedBy price true (os.filter (fun id => ¬ (price id > c.o)))
    else
      sortedBy price true (os.filter (fun id => ¬ (price id > c.o))) ++ sortedBy price false (os.filter (fun id => price id > c.o))

theorem mem_pathOrder (price : Nat → Rat) (c : Candle) (os : List Nat) (id : Nat) : id ∈ pathOrder price c os ↔ id ∈ os := by
  have key : (id ∈ os ∧ price id = c.o) ∨ (id ∈ os ∧ price id > c.o) ∨ (id ∈ os ∧ ¬ price id > c.o) ↔ id ∈ os :=
    ⟨fun h => h.elim And.left (fun h => h.elim And.left And.left),
     fun h => .inr ((Decidable.em (price id > c.o)).imp (And.intro h) (And.intro h))⟩
  unfold pathOrder
  split <;> simp only [List.mem_append, mem_sortedBy, List.mem_filter, decide_eq_true_eq]
  · exact key
  · rw [or_comm (a := id ∈ os ∧ ¬ _)]; exact key

theorem sort_single_eq (e : Engine M) (os : List Nat) (c : Candle)
    (hall : ∀ id ∈ os, candleIncludesPrice c (orderOf e id).price) :
    sortExecutionOrders e os [c] = if os.length ≤ 1 then os else pathOrder (fun id => (orderOf e id).price) c os := by
  have hf : os.filter (fun id => decide (candleIncludesPrice c (orderOf e id).price)) = os :=
    List.filter_eq_self.mpr (fun x hx => decide_eq_true (hall x hx))
  unfold sortExecutionOrders
  simp only [sortExecutionOrders.go, hf, ite_self, List.nil_append]
  by_cases h : os.length ≤ 1
  · rw [if_pos h]
    by_cases h1 : os.length = 1
    · rw [if_pos h1]
    · rw [if_neg h1, if_neg (Nat.not_lt.mpr h)]
      exact (List.eq_nil_of_length_eq_zero (Nat.lt_one_iff.mp (Nat.lt_of_le_of_ne h h1))).symm
  · rw [if_neg h, if_neg (fun h1 => h (Nat.le_of_eq h1)), if_pos (Nat.lt_of_not_le h)]
    unfold pathOrder
    split <;> simp only [List.append_assoc]

theorem mem_sort_single (e : Engine M) (os : List Nat) (c : Candle) (id : Nat)
    (hall : ∀ id ∈ os, candleIncludesPrice c (orderOf e id).price) :
    id ∈ sortExecutionOrders e os [c] ↔ id ∈ os := by
  rw [sort_single_eq e os c hall]
  split
  · rfl
  · exact mem_pathOrder _ c os id

/-- `p`, `q`: the two classes that cover the candidates (above / not above the open); `d`, `d'`: the directions they are
    sorted in -/
theorem head_extreme {price : Nat → Rat} {d d' : Bool} {p q : Nat → Bool} {os : List Nat} {id0 : Nat} {rest : List Nat}
    (hpq : ∀ id, p id = true ∨ q id = true) (hq : sortedBy price d' (os.filter q) = [])
    (hp : sortedBy price d (os.filter p) = id0 :: rest) : ∀ id ∈ os, Before price d id0 id := by
  intro id hid
  have hpid : p id = true := (hpq id).resolve_right (fun h =>
    List.not_mem_nil (hq ▸ (mem_sortedBy price d' _ id).mpr (List.mem_filter.mpr ⟨hid, h⟩)))
  exact head_before (hp ▸ sorted_sortedBy price d _) (hp ▸ (mem_sortedBy price d _ id).mpr (List.mem_filter.mpr ⟨hid, hpid⟩))

theorem head_pathOrder (price : Nat → Rat) (c : Candle) (os : List Nat) (id0 : Nat) (rest : List Nat)
    (h : pathOrder price c os = id0 :: rest) :
    (¬ c.o > c.c → price id0 > c.o → ∀ id ∈ os, price id0 ≤ price id)
    ∧ (c.o > c.c → price id0 < c.o → ∀ id ∈ os, price id ≤ price id0) := by
  unfold pathOrder at h
  have hpq : ∀ id, decide (price id > c.o) = true ∨ decide (¬ price id > c.o) = true :=
    fun id => (Decidable.em (price id > c.o)).imp decide_eq_true decide_eq_true
  constructor
  · intro hr hgt
    rw [if_neg hr] at h
    obtain ⟨_, h⟩ := head_of_append h (fun hm => Rat.ne_of_gt hgt (of_decide_eq_true (List.mem_filter.mp hm).2))
    obtain ⟨hb, h⟩ := head_of_append h (fun hm =>
      of_decide_eq_true (List.mem_filter.mp ((mem_sortedBy _ _ _ _).mp hm)).2 hgt)
    exact head_extreme hpq hb h
  · intro hr hlt
    rw [if_pos hr] at h
    obtain ⟨_, h⟩ := head_of_append h (fun hm => Rat.ne_of_lt hlt (of_decide_eq_true (List.mem_filter.mp hm).2))
    obtain ⟨ha, h⟩ := head_of_append h (fun hm =>
      Rat.not_lt.mpr (Rat.le_of_lt hlt) (of_decide_eq_true (List.mem_filter.mp ((mem_sortedBy _ _ _ _).mp hm)).2))
    exact head_extreme (fun id => (hpq id).symm) ha h

/-- what remains of the path after its first visit of `p0` still contains a price `p` of the candle, unless `p` lies on
    the stretch already travelled: below a `p0` above the open of a rising candle, above a `p0` below the open of a
    falling one -/
theorem pathSplit_rest_includes (c : Candle) (p0 p : Rat) (hne : p0 ≠ c.o) (hp : candleIncludesPrice c p)
    (hup : ¬ c.o > c.c → p0 > c.o → p0 ≤ p) (hdown : c.o > c.c → p0 < c.o → p ≤ p0) :
    candleIncludesPrice (Spec.pathSplit c p0).2 p := by
  fun_cases Spec.pathSplit c p0
  · exact hp
  · -- rising, `p0` above the open: the low has been made, what remains starts at `min p0 c.c`
    rename_i hr h
    have h0 : p0 ≤ p := hup (Rat.not_lt.mpr hr) (Rat.lt_of_le_of_ne (Rat.not_lt.mp h) (Ne.symm hne))
    refine ⟨?_, hp.2⟩
    show (if p0 < c.c then p0 else c.c) ≤ p
    split
    · exact h0
    · rename_i hc; exact Rat.le_trans (Rat.not_lt.mp hc) h0
  · exact hp
  · -- falling, `p0` below the open: the high has been made, what remains ends at `max p0 c.c`
    rename_i hr h
    have h0 : p ≤ p0 := hdown (Rat.not_le.mp hr) (Rat.lt_of_le_of_ne (Rat.not_lt.mp h) hne)
    refine ⟨hp.1, ?_⟩
    show p ≤ (if c.c < p0 then p0 else c.c)
    split
    · exact h0
    · rename_i hc; exact Rat.le_trans h0 (Rat.not_lt.mp hc)

theorem head_first_on_path (e : Engine M) (os : List Nat) (c a b : Candle) (id0 : Nat) (rest : List Nat)
    (hv : c.Valid) (hall : ∀ id ∈ os, candleIncludesPrice c (orderOf e id).price)
    (hsort : sortExecutionOrders e os [c] = id0 :: rest)
    (hsplit : splitCandle c (orderOf e id0).price = some (a, b)) :
    ∀ id ∈ os, candleIncludesPrice b (orderOf e id).price := by
  intro id hid
  have hm0 : id0 ∈ os := (mem_sort_single e os c id0 hall).mp (hsort ▸ List.mem_cons_self)
  by_cases heq : (orderOf e id0).price = c.o
  · rw [heq, C08.split_at_open] at hsplit
    rw [← (Prod.mk.inj (Option.some.inj hsplit)).2]; exact hall id hid
  rw [C08.split_is_path_split c _ hv (hall id0 hm0).1 (hall id0 hm0).2 heq] at hsplit
  obtain rfl : b = (Spec.pathSplit c (orderOf e id0).price).2 := by rw [Option.some.inj hsplit]
  rw [sort_single_eq e os c hall] at hsort
  split at hsort
  · rename_i h
    subst hsort
    obtain rfl : rest = [] := List.eq_nil_of_length_eq_zero (Nat.le_zero.mp (Nat.le_of_succ_le_succ h))
    rw [List.mem_singleton.mp hid]
    exact pathSplit_rest_includes c _ _ heq (hall id0 hm0) (fun _ _ => Rat.le_refl) (fun _ _ => Rat.le_refl)
  · obtain ⟨hB, hC⟩ := head_pathOrder _ c os id0 rest hsort
    exact pathSplit_rest_includes c _ _ heq (hall id hid) (fun hr hgt => hB hr hgt id hid) (fun hr hlt => hC hr hlt id hid)

variable [Inhabited M] (u : UserStrategy M)

theorem matchLoop_nil (fuel : Nat) (e : Engine M) (sym : Nat) (cur : Candle)
    (resel : Engine M → Candle → List Nat) (st : Bool) (herr : e.err = none) : matchLoop u (fuel + 1) e sym cur [] resel st = (e, cur) := by
  rw [matchLoop, if_neg (by rw [herr]; exact Bool.false_ne_true)]; rfl

theorem matchLoop_returns (fuel : Nat) (e : Engine M) (sym : Nat) (cur : Candle) (cands : List Nat)
    (reselect : Engine M → Candle → List Nat) (stamp : Bool) {r : Engine M × Candle}
    (hr : matchLoop u fuel e sym cur cands reselect stamp = r) (herr : r.1.err = none) :
    (r = (e, cur) ∧ matchLoop.firstHit e cur cands = none) ∨ matchLoop.firstHit r.1 r.2 (reselect r.1 r.2) = none := by
  fun_induction matchLoop u fuel e sym cur cands reselect stamp
  · subst hr; exact absurd herr (fail_err_ne _ _)
  · rename_i h; subst hr; exact absurd herr (Option.isSome_iff_ne_none.mp h)
  · rename_i hf; exact .inl ⟨hr.symm, hf⟩
  · subst hr; exact absurd herr (fail_err_ne _ _)
  · rename_i ih
    exact .inr ((ih hr).elim (fun h => by rw [h.1]; exact h.2) id)

end MatchLemmas

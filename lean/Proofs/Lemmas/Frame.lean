/-
  Proofs/Lemmas/Frame.lean — the frame relation `EExt` between engine states.  Read as a predicate of its second
  argument it is closed in the sense of Proofs/Lemmas/Closed.lean, so it holds between a state and whatever the
  strategy layer, a minute, a chunk or a whole run makes of it, for every user strategy.
-/
import Proofs.Lemmas.Closed

namespace FrameLemmas
open Jesse Jesse.Eng Jesse.Acc

variable {M : Type}

/-- the orders that exist in `e` keep symbol and price in `e'`, never become active again and never re-enter a
    registry (C02, C05, C10) -/
def EExt (e e' : Engine M) : Prop := WExt e.w e'.w

theorem EExt.refl (e : Engine M) : EExt e e := WExt.refl _
theorem EExt.trans {a b c : Engine M} (h1 : EExt a b) (h2 : EExt b c) : EExt a c := WExt.trans h1 h2

theorem EExt.closed (a : Engine M) : ClosedAll (EExt a) where
  step hp hw _ _ := WExt.trans hp hw
  store _ _ _ hp := hp

end FrameLemmas

/-
  Proofs/Lemmas/Metrics.lean — what the functions of Jesse/Metrics.lean compute, in the terms of
  Spec/MetricsSpec.lean (for C16).
-/
import Proofs.Lemmas.Num
import Proofs.Lemmas.Pick
import Jesse.Metrics
import Spec.MetricsSpec

namespace Jesse.Metrics
open Jesse Spec.Metrics

theorem winners_cons (t : Trade) (ts : List Trade) :
    winners (t :: ts) = if 0 < t.pnl then t :: winners ts else winners ts := by
  simp [winners, List.filter_cons]

theorem losers_cons (t : Trade) (ts : List Trade) :
    losers (t :: ts) = if t.pnl < 0 then t :: losers ts else losers ts := by
  simp [losers, List.filter_cons]

theorem breakEven_cons (t : Trade) (ts : List Trade) :
    breakEven (t :: ts) = if t.pnl = 0 then t :: breakEven ts else breakEven ts := by
  simp [breakEven, List.filter_cons]

theorem count_partition (ts : List Trade) :
    ts.length = (winners ts).length + (losers ts).length + (breakEven ts).length := by
  induction ts with
  | nil => rfl
  | cons t ts ih =>
    rw [winners_cons, losers_cons, breakEven_cons]
    rcases lt_trichotomy t.pnl 0 with h | h | h
    · rw [if_pos h, if_neg (not_lt_of_gt h), if_neg (ne_of_lt h)]; simp only [List.length_cons]; omega
    · rw [if_pos h, h, if_neg (lt_irrefl _), if_neg (lt_irrefl _)]; simp only [List.length_cons]; omega
    · rw [if_pos h, if_neg (not_lt_of_gt h), if_neg (ne_of_gt h)]; simp only [List.length_cons]; omega

theorem longs_shorts_partition (ts : List Trade) :
    ts.length = (longs ts).length + (shorts ts).length := by
  rw [longs, shorts, ← List.countP_eq_length_filter, ← List.countP_eq_length_filter,
    List.length_eq_countP_add_countP (fun t => decide (t.type = .long))]
  congr 2
  funext t
  cases t.type <;> rfl

theorem sum_split (ts : List Trade) :
    sumR (pnls ts) = sumR (pnls (winners ts)) + sumR (pnls (losers ts)) := by
  induction ts with
  | nil => exact (add_zero _).symm
  | cons t ts ih =>
    rw [winners_cons, losers_cons]
    simp only [pnls, List.map_cons, sumR] at *
    rcases lt_trichotomy t.pnl 0 with h | h | h
    · rw [if_pos h, if_neg (not_lt_of_gt h), List.map_cons, sumR, ih]; ring
    · rw [h, if_neg (lt_irrefl _), if_neg (lt_irrefl _), ih, zero_add]
    · rw [if_pos h, if_neg (not_lt_of_gt h), List.map_cons, sumR, ih]; ring

theorem eq_sum_map {α : Type} (f : α → Rat) {F : List α → Rat} (nil : F [] = 0)
    (cons : ∀ x xs, F (x :: xs) = f x + F xs) : ∀ l, F l = Spec.Metrics.sum (l.map f)
  | [] => nil
  | x :: xs => by rw [cons, eq_sum_map f nil cons xs]; rfl

theorem sum_map_eq_zero {α : Type} (f : α → Rat) : ∀ l : List α, (∀ x ∈ l, f x = 0) →
    Spec.Metrics.sum (l.map f) = 0
  | [], _ => rfl
  | y :: ys, h => by
    rw [List.map_cons, Spec.Metrics.sum, h y List.mem_cons_self,
      sum_map_eq_zero f ys (fun x hx => h x (List.mem_cons_of_mem _ hx)), add_zero]

theorem sumR_eq_spec (l : List Rat) : sumR l = Spec.Metrics.sum l := by
  rw [eq_sum_map id (F := sumR) rfl (fun _ _ => rfl) l, List.map_id]

def runLen (p : Rat → Bool) (k : Int) (x : Rat) : Int := if p x then k + 1 else 0

/-- `pos − maximum.accumulate(where(arr ≤ 0, pos, 0))` is the number of wins counted since the last
    non-win, i.e. the run of wins in progress; likewise for losses.  So the formula is a left-to-right
    scan whose state is the pair of runs in progress, with no case distinction on the state. -/
def runsFrom (a b : Int) : List Rat → List Int
  | [] => []
  | x :: xs => (runLen isPos a x - runLen isNeg b x) :: runsFrom (runLen isPos a x) (runLen isNeg b x) xs

theorem posFlag_eq (x : Rat) : b2i (astypeBool (npClip 0 1 x)) = if 0 < x then 1 else 0 := by
  unfold b2i astypeBool npClip minR maxR
  grind

theorem negFlag_eq (x : Rat) : b2i (astypeBool (npClip (-1) 0 x)) = if x < 0 then 1 else 0 := by
  unfold b2i astypeBool npClip minR maxR
  grind

/-- the vectorised expression with running accumulators (counts so far, maxima so far) -/
def csFrom (P N m1 m2 : Int) (arr : List Rat) : List Int :=
  npWhere (geZero arr)
    (subL (cumsumFrom P (posFlags arr))
      (maxAccFrom m1 (npWhere (leZero arr) (cumsumFrom P (posFlags arr)) (zerosLike arr))))
    (addL (negL (cumsumFrom N (negFlags arr)))
      (maxAccFrom m2 (npWhere (geZero arr) (cumsumFrom N (negFlags arr)) (zerosLike arr))))

theorem csFrom_eq_runs (arr : List Rat) : ∀ (P N m1 m2 : Int),
    0 ≤ m1 → m1 ≤ P → 0 ≤ m2 → m2 ≤ N → csFrom P N m1 m2 arr = runsFrom (P - m1) (N - m2) arr := by
  induction arr with
  | nil => intros; rfl
  | cons x xs ih =>
    intro P N m1 m2 h1 h2 h3 h4
    simp only [csFrom, geZero, leZero, posFlags, negFlags, zerosLike, List.map_cons, cumsumFrom, npWhere,
      maxAccFrom, subL, addL, negL, List.zipWith_cons_cons, posFlag_eq, negFlag_eq, decide_eq_true_eq,
      runsFrom, runLen, isPos, isNeg] at ih ⊢
    -- a loss resets the maximum of the wins to the count `P`, a win that of the losses to `N`, a zero both
    rcases lt_trichotomy x 0 with hx | rfl | hx
    · simp only [hx, not_lt_of_gt hx, not_le_of_gt hx, le_of_lt hx, if_true, if_false, Int.add_zero,
        max_eq_right h2, max_eq_left h3]
      rw [ih _ _ _ _ (le_trans h1 h2) (le_refl _) h3 (by omega)]
      exact congrArg₂ _ (by omega) (congrArg₂ (runsFrom · · xs) (by omega) (by omega))
    · simp only [lt_irrefl, le_refl, if_true, if_false, Int.add_zero, max_eq_right h2, max_eq_right h4]
      rw [ih _ _ _ _ (le_trans h1 h2) (le_refl _) (le_trans h3 h4) (le_refl _)]
      exact congrArg₂ _ (by omega) (congrArg₂ (runsFrom · · xs) (by omega) (by omega))
    · simp only [hx, not_lt_of_gt hx, not_le_of_gt hx, le_of_lt hx, if_true, if_false, Int.add_zero,
        max_eq_left h1, max_eq_right h4]
      rw [ih _ _ _ _ h1 (by omega) (le_trans h3 h4) (le_refl _)]
      exact congrArg₂ _ (by omega) (congrArg₂ (runsFrom · · xs) (by omega) (by omega))

theorem currentStreakArr_eq_runs (arr : List Rat) : currentStreakArr arr = runsFrom 0 0 arr := by
  cases arr with
  | nil => rfl
  | cons x xs =>
    -- `maximum.accumulate` starts at its first element, which is not negative
    have e : ∀ (c d : Prop) [Decidable c] [Decidable d],
        max 0 (if c then (0:Int) + (if d then 1 else 0) else 0) = if c then 0 + (if d then 1 else 0) else 0 := by
      intros; split <;> (try split) <;> omega
    have key : currentStreakArr (x :: xs) = csFrom 0 0 0 0 (x :: xs) := by
      simp only [currentStreakArr, csFrom, posCum, negCum, cumsum, geZero, leZero, posFlags, negFlags,
        zerosLike, List.map_cons, cumsumFrom, npWhere, maxAcc, maxAccFrom, posFlag_eq, negFlag_eq, e]
    rw [key]
    exact csFrom_eq_runs _ 0 0 0 0 (le_refl _) (le_refl _) (le_refl _) (le_refl _)

theorem prefixRun_cons (p : Rat → Bool) (x : Rat) (xs : List Rat) :
    prefixRun p (x :: xs) = if p x then 1 + prefixRun p xs else 0 := by
  unfold prefixRun
  rw [List.takeWhile_cons]
  split <;> simp [Nat.add_comm]

theorem prefixRun_le_longestRun (p : Rat → Bool) (l : List Rat) : prefixRun p l ≤ longestRun p l := by
  cases l with
  | nil => simp [prefixRun, longestRun]
  | cons x xs => unfold longestRun; omega

theorem maxFromI_max (l : List Int) : ∀ (m k : Int), max (maxFromI m l) k = maxFromI (max m k) l := by
  induction l with
  | nil => intros; rfl
  | cons x xs ih => intro m k; rw [maxFromI, maxFromI, ih, max_right_comm]

-- `a`, `b`: the runs of wins / of losses in progress, `m`: the maximum so far (entries inside a run of
-- losses are `≤ 0 ≤ m`).  At the end: `m`, or the run in progress grown by the wins that follow, or a later run.
theorem maxFromI_runs (xs : List Rat) : ∀ (a b m : Int), 0 ≤ a → a ≤ m → 0 ≤ b →
    maxFromI m (runsFrom a b xs)
      = max m (max (a + (prefixRun isPos xs : Int)) (longestRun isPos xs : Int)) := by
  induction xs with
  | nil =>
    intro a b m h1 h2 _
    simp only [runsFrom, maxFromI, prefixRun, longestRun, List.takeWhile_nil, List.length_nil]
    omega
  | cons x xs ih =>
    intro a b m h1 h2 h3
    have hle := prefixRun_le_longestRun isPos xs
    rw [runsFrom, maxFromI, longestRun, prefixRun_cons]
    by_cases hx : 0 < x
    · -- a win: the run grows to `a + 1`, and `a + 1 + prefix` is above both `a + 1` and `1 + prefix`
      have hp : isPos x = true := decide_eq_true hx
      have hn : ¬ isNeg x = true := by simpa [isNeg] using le_of_lt hx
      rw [show runLen isPos a x = a + 1 from if_pos hp, show runLen isNeg b x = 0 from if_neg hn,
        sub_zero, ih _ _ _ (by omega) (le_max_right _ _) (le_refl _), if_pos hp, max_assoc]
      congr 1
      omega
    · -- no win: the entry is not positive and the run restarts at 0; `a ≤ m` and `prefix ≤ longest`
      have hp : ¬ isPos x = true := by simpa [isPos] using hx
      have hb : 0 ≤ runLen isNeg b x := by unfold runLen; split <;> omega
      rw [show runLen isPos a x = 0 from if_neg hp, zero_sub, max_eq_left (by omega : -runLen isNeg b x ≤ m),
        ih _ _ _ (le_refl _) (by omega) hb, if_neg hp]
      omega

theorem winning_eq (arr : List Rat) : max (arrMax (runsFrom 0 0 arr)) 0 = (longestRun isPos arr : Int) := by
  cases arr with
  | nil => rfl
  | cons x xs =>
    have hle := prefixRun_le_longestRun isPos (x :: xs)
    rw [runsFrom, arrMax, maxFromI_max, max_comm, ← maxFromI, ← runsFrom,
      maxFromI_runs _ 0 0 0 (le_refl _) (le_refl _) (le_refl _)]
    omega

/-! losses are the wins of the negated sequence -/

theorem minFromI_eq_neg_maxFromI (l : List Int) : ∀ m, minFromI m l = -maxFromI (-m) (l.map (- ·)) := by
  induction l with
  | nil => intro m; exact (Int.neg_neg m).symm
  | cons x xs ih => intro m; rw [minFromI, ih, List.map_cons, maxFromI]; congr 2; omega

theorem arrMin_eq_neg_arrMax (l : List Int) : arrMin l = -arrMax (l.map (- ·)) := by
  cases l with
  | nil => rfl
  | cons x xs => exact minFromI_eq_neg_maxFromI xs x

theorem isPos_neg : isPos ∘ (- ·) = isNeg := by
  funext x; simp [isPos, isNeg]

theorem runsFrom_neg (xs : List Rat) : ∀ a b, runsFrom b a (xs.map (- ·)) = (runsFrom a b xs).map (- ·) := by
  induction xs with
  | nil => intro a b; rfl
  | cons x xs ih =>
    intro a b
    have e1 : ∀ k, runLen isPos k (-x) = runLen isNeg k x := fun k => by simp [runLen, isPos, isNeg]
    have e2 : ∀ k, runLen isNeg k (-x) = runLen isPos k x := fun k => by simp [runLen, isPos, isNeg]
    rw [List.map_cons, runsFrom, runsFrom, List.map_cons, neg_sub, ← ih, e1, e2]

theorem prefixRun_map (p : Rat → Bool) (f : Rat → Rat) (l : List Rat) :
    prefixRun p (l.map f) = prefixRun (p ∘ f) l := by
  rw [prefixRun, List.takeWhile_map, List.length_map]; rfl

theorem longestRun_map (p : Rat → Bool) (f : Rat → Rat) (l : List Rat) :
    longestRun p (l.map f) = longestRun (p ∘ f) l := by
  induction l with
  | nil => rfl
  | cons x xs ih => rw [longestRun, ← ih, ← prefixRun_map]; rfl

theorem losing_eq (arr : List Rat) :
    (if 0 < arrMin (runsFrom 0 0 arr) then 0 else ((arrMin (runsFrom 0 0 arr)).natAbs : Int))
      = (longestRun isNeg arr : Int) := by
  rw [arrMin_eq_neg_arrMax, ← runsFrom_neg, ← isPos_neg, ← longestRun_map, ← winning_eq]
  omega

theorem trailingRun_snoc (p : Rat → Bool) (pre : List Rat) (x : Rat) :
    trailingRun p (pre ++ [x]) = if p x then 1 + trailingRun p pre else 0 := by
  unfold trailingRun
  rw [List.reverse_append, List.reverse_singleton, List.singleton_append, prefixRun_cons]

theorem foldl_runLen (p : Rat → Bool) (xs : List Rat) : ∀ pre : List Rat,
    xs.foldl (runLen p) (trailingRun p pre) = trailingRun p (pre ++ xs) := by
  induction xs with
  | nil => intro pre; rw [List.append_nil]; rfl
  | cons x xs ih =>
    intro pre
    rw [List.append_cons, ← ih, trailingRun_snoc, List.foldl_cons, runLen]
    split <;> simp [Int.add_comm]

theorem arrLast_runs (xs : List Rat) : ∀ (a b : Int), xs ≠ [] →
    arrLast (runsFrom a b xs) = xs.foldl (runLen isPos) a - xs.foldl (runLen isNeg) b := by
  induction xs with
  | nil => intro _ _ h; exact absurd rfl h
  | cons x xs ih =>
    intro a b _
    cases xs with
    | nil => rfl
    | cons y ys => rw [runsFrom, runsFrom, arrLast, ← runsFrom, ih _ _ (List.cons_ne_nil _ _)]; rfl

theorem current_eq (arr : List Rat) : arrLast (runsFrom 0 0 arr) = signedCurrentRun arr := by
  cases arr with
  | nil => rfl
  | cons x xs =>
    rw [arrLast_runs _ 0 0 (List.cons_ne_nil _ _)]
    exact congrArg₂ (· - ·) (foldl_runLen isPos _ []) (foldl_runLen isNeg _ [])

theorem colMax_isGreatest (l : List Rat) (h : l ≠ []) : ∃ v, colMax l = some v ∧ IsGreatest v l := by
  cases l with
  | nil => exact absurd rfl h
  | cons x xs =>
    exact ⟨_, rfl, pick_spec (r := (· ≤ ·)) le_refl le_trans maxR_pick (F := maxFromR)
      (fun _ => rfl) (fun _ _ _ => rfl) xs x⟩

theorem colMin_isLeast (l : List Rat) (h : l ≠ []) : ∃ v, colMin l = some v ∧ IsLeast v l := by
  cases l with
  | nil => exact absurd rfl h
  | cons x xs =>
    exact ⟨_, rfl, pick_spec (r := (· ≥ ·)) le_refl (fun h1 h2 => le_trans h2 h1) minR_pick (F := minFromR)
      (fun _ => rfl) (fun _ _ _ => rfl) xs x⟩

theorem meanR_eq (l : List Rat) : meanR l = if l.length = 0 then none else some (sumR l / (l.length : Rat)) := by
  cases l <;> rfl

theorem meanR_of_ne_nil (l : List Rat) (h : l ≠ []) : meanR l = some (sumR l / (l.length : Rat)) := by
  rw [meanR_eq, if_neg (mt List.length_eq_zero_iff.1 h)]

theorem meanR_nil : meanR [] = none := meanR_eq []

theorem pnls_length (ts : List Trade) : (pnls ts).length = ts.length := List.length_map _

theorem pnls_ne_nil {ts : List Trade} (h : ts.length ≠ 0) : pnls ts ≠ [] :=
  fun h0 => h (by rw [← pnls_length, h0]; rfl)

theorem grossLoss_nonpos (ts : List Trade) : sumR (pnls (losers ts)) ≤ 0 := by
  induction ts with
  | nil => simp [losers, pnls, sumR]
  | cons t ts ih =>
    rw [losers_cons]
    split
    · simp only [pnls, List.map_cons, sumR] at *; linarith
    · exact ih

theorem sumR_pnls_of_length_zero (ts : List Trade) (h : ts.length = 0) : sumR (pnls ts) = 0 := by
  have : ts = [] := List.length_eq_zero_iff.mp h
  subst this; rfl

theorem meanR_pnls (ts : List Trade) :
    meanR (pnls ts) = if ts.length = 0 then none else some (sumR (pnls ts) / (ts.length : Rat)) := by
  rw [meanR_eq, pnls_length]

/-- the mean of the losses is not positive, so its absolute value is its negation -/
theorem averageLoss_eq (ts : List Trade) :
    averageLoss ts = if (losers ts).length = 0 then none
      else some (-(grossLoss ts) / ((losers ts).length : Rat)) := by
  unfold averageLoss grossLoss
  rw [meanR_pnls]
  split
  · rfl
  · have hL : (0:Rat) < ((losers ts).length : Rat) := Nat.cast_pos.mpr (Nat.pos_of_ne_zero ‹_›)
    rw [Option.map_some, absR_eq_abs,
      abs_of_nonpos (div_nonpos_of_nonpos_of_nonneg (grossLoss_nonpos ts) (le_of_lt hL)), neg_div]

theorem averageWin_mul (ts : List Trade) :
    (averageWin ts).getD 0 * ((winners ts).length : Rat) = grossProfit ts := by
  unfold averageWin
  rw [meanR_pnls]
  split
  · rw [‹(winners ts).length = 0›, Nat.cast_zero, mul_zero]; exact (sumR_pnls_of_length_zero _ ‹_›).symm
  · exact div_mul_cancel₀ _ (Nat.cast_ne_zero.mpr ‹_›)

theorem averageLoss_mul (ts : List Trade) :
    (averageLoss ts).getD 0 * ((losers ts).length : Rat) = -grossLoss ts := by
  rw [averageLoss_eq]
  split
  · rw [‹(losers ts).length = 0›, Nat.cast_zero, mul_zero]
    exact (neg_eq_zero.mpr (sumR_pnls_of_length_zero _ ‹_›)).symm
  · exact div_mul_cancel₀ _ (Nat.cast_ne_zero.mpr ‹_›)

theorem winRate_mul (ts : List Trade) :
    winRate ts * (((winners ts).length : Rat) + ((losers ts).length : Rat)) = ((winners ts).length : Rat) := by
  unfold winRate
  split
  · rw [‹(winners ts).length = 0›, Nat.cast_zero, zero_mul]
  · rw [add_comm, div_mul_cancel₀]
    exact_mod_cast (by omega : (winners ts).length + (losers ts).length ≠ 0)

/-- the expectancy is the mean PnL of the decided trades: win rate × (winners + losers) is the number
    of winners, and each average × its count is the gross amount -/
theorem expectancy_mul (ts : List Trade) :
    expectancy ts * (((winners ts).length : Rat) + ((losers ts).length : Rat))
      = grossProfit ts + grossLoss ts := by
  calc _ = (averageWin ts).getD 0 * (winRate ts * (((winners ts).length : Rat) + ((losers ts).length : Rat)))
          - (averageLoss ts).getD 0 * ((((winners ts).length : Rat) + ((losers ts).length : Rat))
            - winRate ts * (((winners ts).length : Rat) + ((losers ts).length : Rat))) := by
        unfold expectancy; ring
    _ = grossProfit ts + grossLoss ts := by
        rw [winRate_mul, add_sub_cancel_left, averageWin_mul, averageLoss_mul, sub_neg_eq_add]

theorem count_nonzero_multiples (q : Nat) (K : Nat) :
    ((List.range K).filter (fun k => decide (k ≠ 0) && decide (k % q = 0))).length = (K - 1) / q := by
  induction K with
  | zero => simp
  | succ K ih =>
    rw [List.range_succ, List.filter_append, List.length_append, ih]
    cases K with
    | zero => simp
    | succ K =>
      rw [Nat.add_sub_cancel, Nat.add_sub_cancel, Nat.succ_div, List.filter_cons, List.filter_nil]
      simp only [Nat.dvd_iff_mod_eq_zero, ne_eq, Nat.succ_ne_zero, not_false_eq_true, decide_true,
        Bool.true_and, decide_eq_true_eq]
      split <;> rfl

theorem stepSampleIdx_length (n : Nat) : (stepSampleIdx n).length = (n - 1) / 1440 :=
  count_nonzero_multiples 1440 n

theorem ceilDiv_sub_one (n c : Nat) (hc : 0 < c) : (n + c - 1) / c - 1 = (n - 1) / c := by
  rcases n with _ | n
  · rw [Nat.zero_add, Nat.div_eq_of_lt (Nat.sub_lt hc Nat.one_pos), Nat.zero_sub, Nat.zero_div]
  · rw [show n + 1 + c - 1 = n + c by omega, Nat.add_div_right _ hc]; rfl

/-- the fast simulator samples once per common multiple of its chunk and a day: a loop index `k·c`
    is a whole number of days exactly when `k` is a multiple of `lcm c 1440 / c` -/
theorem fastSampleIdx_length (n c : Nat) (hc : 0 < c) :
    (fastSampleIdx n c).length = (n - 1) / Nat.lcm c 1440 := by
  obtain ⟨q, hq⟩ := Nat.dvd_lcm_left c 1440
  have e : samplesAt ∘ (· * c) = (fun k => decide (k ≠ 0) && decide (k % q = 0)) := by
    funext k
    have h1 : k * c ≠ 0 ↔ k ≠ 0 := by simp [Nat.ne_of_gt hc]
    have h2 : k * c % 1440 = 0 ↔ k % q = 0 := by
      rw [← Nat.dvd_iff_mod_eq_zero, ← Nat.dvd_iff_mod_eq_zero, ← Nat.mul_dvd_mul_iff_right (a := q) hc,
        Nat.mul_comm q c, ← hq, Nat.lcm_dvd_iff]
      exact (and_iff_right (Nat.dvd_mul_left c k)).symm
    simp only [Function.comp, samplesAt, h1, h2]
  rw [fastSampleIdx, fastLoop, List.filter_map, List.length_map, e, count_nonzero_multiples q,
    ceilDiv_sub_one n c hc, Nat.div_div_eq_div_mul, hq]

/-- the cumulative product of the daily factors is the balance itself, up to the constant
    `k = 1 / starting balance` -/
theorem cumprod_pctTail (xs : List Rat) : ∀ (prev acc k : Rat), prev ≠ 0 → (∀ x ∈ xs, x ≠ 0) →
    acc = k * prev → cumprodSkip acc (pctTail prev xs) = xs.map (fun x => some (k * x)) := by
  induction xs with
  | nil => intros; rfl
  | cons x xs ih =>
    intro prev acc k hp hx hk
    have e : acc * (x / prev - 1 + 1) = k * x := by rw [hk, sub_add_cancel, mul_assoc, mul_div_cancel₀ _ hp]
    rw [pctTail, cumprodSkip, List.map_cons, e,
      ih x _ k (hx x List.mem_cons_self) (fun y hy => hx y (List.mem_cons_of_mem _ hy)) rfl]

theorem ratios_scaled (es : List Rat) : ∀ (k peak : Rat), 0 < k →
    divSkip (es.map (fun x => some (k * x)))
        (expandingMaxSkip (some (k * peak)) (es.map (fun x => some (k * x))))
      = (peakRatiosFrom peak es).map some := by
  induction es with
  | nil => intros; rfl
  | cons e es ih =>
    intro k peak hk
    simp only [List.map_cons, expandingMaxSkip, divSkip, peakRatiosFrom]
    rw [maxR_scale k peak e hk, ih k _ hk, mul_div_mul_left _ _ (ne_of_gt hk)]

theorem minSkip_map_some (l : List Rat) : minSkip (l.map some) = listMin l := by
  induction l with
  | nil => rfl
  | cons x xs ih =>
    simp only [List.map_cons, minSkip, listMin, ih]
    cases listMin xs <;> rfl

theorem fillna0_pctTail (xs : List Rat) : ∀ p : Rat, fillna0 (pctTail p xs) = pctTail p xs := by
  induction xs with
  | nil => intro p; rfl
  | cons x xs ih => intro p; simp only [pctTail, fillna0, ih]

theorem ddRatios_pctChange (b0 : Rat) (bs : List Rat) (h0 : 0 < b0) (hs : ∀ x ∈ bs, x ≠ 0) :
    divSkip (ddPrices (pctChange (b0 :: bs))) (expandingMaxSkip none (ddPrices (pctChange (b0 :: bs))))
      = (peakRatios (b0 :: bs)).map some := by
  have hk : (0:Rat) < 1 / b0 := by positivity
  have h1 : (1:Rat) * (0 + 1) = 1 := by norm_num
  have hb : (1:Rat) = 1 / b0 * b0 := by field_simp
  unfold ddPrices
  simp only [pctChange, fillna0, fillna0_pctTail, cumprodSkip, h1]
  rw [cumprod_pctTail bs b0 1 (1 / b0) (ne_of_gt h0) hs hb]
  simp only [expandingMaxSkip, divSkip, peakRatios, peakRatiosFrom, List.map_cons, maxR_self]
  have := ratios_scaled bs (1 / b0) b0 hk
  rw [← hb] at this
  rw [this, div_self (ne_of_gt h0)]
  norm_num

theorem minSkip_subOne (l : List (Option Rat)) : minSkip (subOneSkip l) = (minSkip l).map (· - 1) := by
  induction l with
  | nil => rfl
  | cons o os ih =>
    unfold subOneSkip at *
    cases o with
    | none => simpa [minSkip] using ih
    | some x =>
      simp only [List.map_cons, Option.map_some, minSkip, ih]
      cases minSkip os with
      | none => rfl
      | some m => simp [minR_sub_one]

theorem listMin_cons_le (x : Rat) (xs : List Rat) : ∃ m, listMin (x :: xs) = some m ∧ m ≤ x := by
  simp only [listMin]
  cases listMin xs with
  | none => exact ⟨x, rfl, le_refl _⟩
  | some m => exact ⟨minR x m, rfl, minR_le_left _ _⟩

theorem spec_maxDrawdown_nonpos (e : Rat) (es : List Rat) (he : e ≠ 0) :
    ∃ d, Spec.Metrics.maxDrawdown (e :: es) = some d ∧ d ≤ 0 := by
  unfold Spec.Metrics.maxDrawdown
  simp only [peakRatios, peakRatiosFrom, maxR_self, div_self he]
  obtain ⟨m, hm, hle⟩ := listMin_cons_le 1 (peakRatiosFrom e es)
  rw [hm]
  exact ⟨m - 1, rfl, by linarith⟩

theorem validReturns_pctTail (bs : List Rat) : ∀ b : Rat,
    validReturns (pctTail b bs) = Spec.Metrics.returns (b :: bs) := by
  induction bs with
  | nil => intro b; rfl
  | cons x xs ih => intro b; simp only [pctTail, validReturns, Spec.Metrics.returns, ih]

theorem validReturns_pctChange (bal : List Rat) :
    validReturns (pctChange bal) = Spec.Metrics.returns bal := by
  cases bal with
  | nil => rfl
  | cons b bs => simp only [pctChange, validReturns]; exact validReturns_pctTail bs b

theorem pctTail_length (bs : List Rat) : ∀ b : Rat, (pctTail b bs).length = bs.length := by
  induction bs with
  | nil => intro b; rfl
  | cons x xs ih => intro b; simp [pctTail, ih]

theorem pctChange_length (bal : List Rat) : (pctChange bal).length = bal.length := by
  cases bal with
  | nil => rfl
  | cons b bs => simp [pctChange, pctTail_length]

theorem returns_length (bs : List Rat) : ∀ b : Rat, (Spec.Metrics.returns (b :: bs)).length = bs.length := by
  induction bs with
  | nil => intro b; rfl
  | cons x xs ih => intro b; simp [Spec.Metrics.returns, ih]

theorem sqDevSum_eq (m : Rat) (l : List Rat) :
    sqDevSum m l = Spec.Metrics.sum (l.map (fun r => (r - m) * (r - m))) :=
  eq_sum_map _ rfl (fun _ _ => rfl) l

theorem negSqSum_eq (l : List Rat) :
    negSqSum l = Spec.Metrics.sum (l.map (fun r => if r < 0 then r * r else 0)) :=
  eq_sum_map _ rfl (fun _ _ => rfl) l

theorem posSum_eq (l : List Rat) : posSum l = gains l :=
  eq_sum_map _ rfl (fun _ _ => rfl) l

theorem negSum_eq (l : List Rat) : -1 * negSum l = losses l := by
  induction l with
  | nil => simp [negSum, losses, Spec.Metrics.sum]
  | cons x xs ih =>
    unfold losses at *
    simp only [negSum, List.map_cons, Spec.Metrics.sum]
    rw [← ih]
    split <;> ring

theorem negSqSum_nonneg (l : List Rat) : 0 ≤ negSqSum l := by
  induction l with
  | nil => simp [negSqSum]
  | cons x xs ih =>
    simp only [negSqSum]
    split
    · exact add_nonneg (mul_self_nonneg x) ih
    · rwa [zero_add]

theorem negSqSum_eq_zero_of_nonneg (l : List Rat) (h : ∀ x ∈ l, 0 ≤ x) : negSqSum l = 0 :=
  (negSqSum_eq l).trans (sum_map_eq_zero _ l fun x hx => if_neg (not_lt.mpr (h x hx)))

theorem prodPlusOne_returns (bs : List Rat) : ∀ a : Rat, a ≠ 0 → (∀ x ∈ bs, x ≠ 0) →
    prodPlusOne (Spec.Metrics.returns (a :: bs)) = bs.getLastD a / a := by
  induction bs with
  | nil => intro a ha _; simp [Spec.Metrics.returns, prodPlusOne, div_self ha]
  | cons b rest ih =>
    intro a ha hs
    have hb : b ≠ 0 := hs b List.mem_cons_self
    simp only [Spec.Metrics.returns, prodPlusOne, List.getLastD_cons]
    rw [ih b hb (fun y hy => hs y (List.mem_cons_of_mem _ hy))]
    field_simp
    ring

theorem futuresSample_eq (ps : List FutPos) : ∀ wallet : Rat,
    futuresSample wallet ps = wallet + Spec.Metrics.sum ((ps.filter (·.isOpen)).map (·.pnl)) := by
  induction ps with
  | nil => intro w; simp [futuresSample, Spec.Metrics.sum]
  | cons p ps ih =>
    intro w
    simp only [futuresSample, List.filter_cons]
    rw [ih]
    cases p.isOpen
    · simp
    · simp only [if_true, List.map_cons, Spec.Metrics.sum]; ring

theorem positionsValue_eq (rs : List SpotRoute) :
    positionsValue rs = Spec.Metrics.sum (rs.map (·.positionValue)) :=
  eq_sum_map _ rfl (fun _ _ => rfl) rs

theorem reservedTotal_eq (rs : List SpotRoute) :
    reservedTotal rs = Spec.Metrics.sum (rs.map (·.reservedQuote)) :=
  eq_sum_map _ rfl (fun _ _ => rfl) rs

theorem sum_perm {l₁ l₂ : List Rat} (h : l₁.Perm l₂) : Spec.Metrics.sum l₁ = Spec.Metrics.sum l₂ := by
  induction h with
  | nil => rfl
  | cons x _ ih => simp only [Spec.Metrics.sum, ih]
  | swap x y l => simp only [Spec.Metrics.sum]; ring
  | trans _ _ ih1 ih2 => exact ih1.trans ih2

theorem tfMinutes_day (t : Timeframe) : 0 < tfMinutes t ∧ (tfMinutes t ∣ 1440 ∨ 1440 ∣ tfMinutes t) := by
  cases t <;> decide

theorem chunkOf_day (ts : List Timeframe) (h : ts ≠ []) :
    0 < chunkOf ts ∧ (chunkOf ts ∣ 1440 ∨ 1440 ∣ chunkOf ts) := by
  induction ts with
  | nil => exact absurd rfl h
  | cons t ts ih =>
    simp only [chunkOf]
    refine ⟨Nat.gcd_pos_of_pos_left _ (tfMinutes_day t).1, ?_⟩
    cases ts with
    | nil => simp only [chunkOf, Nat.gcd_zero_right]; exact (tfMinutes_day t).2
    | cons u us =>
      obtain ⟨_, ih2⟩ := ih (List.cons_ne_nil _ _)
      rcases (tfMinutes_day t).2 with ht | ht
      · left; exact Nat.dvd_trans (Nat.gcd_dvd_left _ _) ht
      · rcases ih2 with hc | hc
        · left; exact Nat.dvd_trans (Nat.gcd_dvd_right _ _) hc
        · right; exact Nat.dvd_gcd ht hc

end Jesse.Metrics

/-
  Proofs/Lemmas/MinMax.lean — the extrema detector is prefix-stable except for its last `order` rows.
-/
import Proofs.Lemmas.Causal
import Jesse.Ind.Off

namespace Jesse.Ind

theorem all_congr_mem {α} (l : List α) (f g : α → Bool) (h : ∀ x ∈ l, f x = g x) : l.all f = l.all g := by
  induction l with
  | nil => rfl
  | cons a r ih =>
    simp only [List.all_cons]
    rw [h a List.mem_cons_self, ih (fun x hx => h x (List.mem_cons_of_mem _ hx))]

theorem clipIdx_of_lt (n : Nat) (i : Int) (h0 : 0 ≤ i) (h : i.toNat < n) : clipIdx n i = i.toNat := by
  unfold clipIdx
  rw [if_neg (by omega), if_neg (by omega)]

theorem clipIdx_neg (n : Nat) (i : Int) (h : i < 0) : clipIdx n i = 0 := if_pos h

theorem getElem?_clip_take (xs : List Rat) (k : Nat) (hk : k ≤ xs.length) (t : Int) (ht : t < k) (h0 : 0 < k) :
    (xs.take k)[clipIdx k t]? = xs[clipIdx xs.length t]? := by
  by_cases hneg : t < 0
  · rw [clipIdx_neg _ _ hneg, clipIdx_neg _ _ hneg, List.getElem?_take, if_pos h0]
  · rw [clipIdx_of_lt k t (by omega) (by omega), clipIdx_of_lt xs.length t (by omega) (by omega),
      List.getElem?_take, if_pos (by omega)]

theorem isExtremum_take (lt : Bool) (o : Nat) (xs : List Rat) (k i : Nat) (hk : k ≤ xs.length) (hi : i + o < k) :
    isExtremum lt o (xs.take k) i = isExtremum lt o xs i := by
  unfold isExtremum
  rw [List.length_take, Nat.min_eq_left hk]
  refine all_congr_mem _ _ _ fun j hj => ?_
  have := List.mem_range.1 hj
  rw [getElem?_clip_take xs k hk _ (by omega) (by omega), getElem?_clip_take xs k hk _ (by omega) (by omega),
    List.getElem?_take, if_pos (by omega)]

theorem extrema_take (lt : Bool) (o : Nat) (xs : List Rat) (k : Nat) :
    (extrema lt o (xs.take k)).take (k - o) = (extrema lt o xs).take (k - o) := by
  by_cases hk : k ≤ xs.length
  · refine imap_take_congr _ xs k (k - o) (by omega) fun i hi _ => ?_
    have hio : i + o < k := by omega
    show (if isExtremum lt o (xs.take k) i = true then (xs.take k)[i]? else none) = _
    rw [isExtremum_take lt o xs k i hk hio, List.getElem?_take, if_pos (show i < k by omega)]
  · rw [List.take_of_length_le (Nat.le_of_not_le hk)]

end Jesse.Ind

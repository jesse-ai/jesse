/-
  Proofs/Lemmas/WorldFrame.lean — frame facts about the accounts model: whatever `submit`, `execute`, `cancel`,
  `updateActive`, `setPrice` and the emptying of a registry do, an order that already exists keeps its symbol and price, never becomes
  active again, and never re-enters the active registry (`WExt`).
-/
import Proofs.Lemmas.Accounts

namespace FrameLemmas
open Jesse Jesse.Gen Jesse.Acc

/-- `noRevive` follows from `final` (`WExt.of_final`) -/
structure WExt (w w' : World) : Prop where
  len : w.orders.length ≤ w'.orders.length
  same : ∀ id, id < w.orders.length →
    (w'.orders.getD id default).price = (w.orders.getD id default).price ∧
    (w'.orders.getD id default).sym = (w.orders.getD id default).sym
  noRevive : ∀ id, id < w.orders.length → (w'.orders.getD id default).status = .active →
    (w.orders.getD id default).status = .active
  registry : ∀ sym id, id < w.orders.length → id ∈ Acc.getD w'.active sym → id ∈ Acc.getD w.active sym
  final : ∀ id, id < w.orders.length → (w.orders.getD id default).status ≠ .active →
    (w'.orders.getD id default).status = (w.orders.getD id default).status

theorem WExt.of_final {w w' : World} (len : w.orders.length ≤ w'.orders.length)
    (same : ∀ id, id < w.orders.length →
      (w'.orders.getD id default).price = (w.orders.getD id default).price ∧
      (w'.orders.getD id default).sym = (w.orders.getD id default).sym)
    (registry : ∀ sym id, id < w.orders.length → id ∈ Acc.getD w'.active sym → id ∈ Acc.getD w.active sym)
    (final : ∀ id, id < w.orders.length → (w.orders.getD id default).status ≠ .active →
      (w'.orders.getD id default).status = (w.orders.getD id default).status) : WExt w w' :=
  ⟨len, same, fun id hid h => Decidable.by_contra fun hf => hf (final id hid hf ▸ h), registry, final⟩

theorem WExt.trans {a b c : World} (h1 : WExt a b) (h2 : WExt b c) : WExt a c := by
  refine .of_final (Nat.le_trans h1.len h2.len) ?_ ?_ ?_
  · intro id hid
    have hb : id < b.orders.length := Nat.lt_of_lt_of_le hid h1.len
    exact ⟨(h2.same id hb).1.trans (h1.same id hid).1, (h2.same id hb).2.trans (h1.same id hid).2⟩
  · intro sym id hid h
    exact h1.registry sym id hid (h2.registry sym id (Nat.lt_of_lt_of_le hid h1.len) h)
  · intro id hid hf
    have hb : id < b.orders.length := Nat.lt_of_lt_of_le hid h1.len
    have e1 := h1.final id hid hf
    exact (h2.final id hb (by rw [e1]; exact hf)).trans e1

theorem WExt.of_shrink {w w' : World} (ho : w'.orders = w.orders)
    (ha : ∀ sym id, id ∈ Acc.getD w'.active sym → id ∈ Acc.getD w.active sym) : WExt w w' := by
  refine .of_final (by rw [ho]; exact Nat.le_refl _) ?_ (fun sym id _ => ha sym id) ?_
  · intro id _; rw [ho]; exact ⟨rfl, rfl⟩
  · intro id _ _; rw [ho]

theorem WExt.of_eq {w w' : World} (ho : w'.orders = w.orders) (ha : w'.active = w.active) : WExt w w' :=
  .of_shrink ho fun _ _ h => ha ▸ h

theorem WExt.refl (w : World) : WExt w w := .of_eq rfl rfl

theorem WExt.of_finalize {w w' : World} (id : Nat) {s : OrderStatus}
    (ho : w'.orders = Acc.upd w.orders id (Order.finalize s)) (ha : w'.active = w.active) : WExt w w' := by
  have key : ∀ k, w'.orders.getD k default = w.orders.getD k default ∨
      w'.orders.getD k default = Order.finalize s (w.orders.getD k default) := by
    intro k; rw [ho, listGetD_upd]; split
    · exact .inr rfl
    · exact .inl rfl
  refine .of_final (by rw [ho, length_upd]; exact Nat.le_refl _) (fun k _ => ?_) (fun sym k _ h => by rwa [ha] at h)
    (fun k _ hf => ?_)
  · rcases key k with e | e <;> rw [e]
    · exact ⟨rfl, rfl⟩
    · exact Order.finalize_same s _
  · rcases key k with e | e <;> rw [e]
    rw [Order.finalize_of_final s hf]

theorem execute_ext (w : World) (id : Nat) : WExt w (execute w id) :=
  .of_finalize id (execute_orders w id) (execute_active w id)

theorem cancel_ext (w : World) (id : Nat) : WExt w (cancel w id) :=
  .of_finalize id (cancel_orders w id) (cancel_active w id)

def Same (w w' : World) : Prop := w'.orders = w.orders ∧ w'.active = w.active

theorem same_openTrade (w : World) (s : Nat) : Same w (openTrade w s) := ⟨rfl, rfl⟩

theorem setPrice_ext (w : World) (s : Nat) (p : Rat) : WExt w (setPrice w s p) := WExt.of_eq rfl rfl

theorem submit_ok_ext {w w' : World} {sym : Nat} {side : Side} {type : OrderType} {q p : Rat} {ro : Bool}
    (h : submit w sym side type q p ro = .ok w') : WExt w w' := by
  obtain ⟨ho, ha⟩ := submit_ok h
  have hold : ∀ id, id < w.orders.length → w'.orders.getD id default = w.orders.getD id default :=
    fun id hid => by
      rw [ho, List.getD_eq_getElem?_getD, List.getD_eq_getElem?_getD, List.getElem?_append_left hid]
  refine .of_final (by rw [ho, List.length_append]; exact Nat.le_add_right _ _)
    (fun id hid => by rw [hold id hid]; exact ⟨rfl, rfl⟩) (fun s id hid hm => ?_) (fun id hid _ => by rw [hold id hid])
  rw [ha, Acc.getD_upd] at hm
  split at hm
  · rcases List.mem_append.mp hm with hm | hm
    · exact hm
    · exact absurd (List.mem_singleton.mp hm) (Nat.ne_of_lt hid)
  · exact hm

theorem submit_err_ext {w w' : World} {k : Err} {sym : Nat} {side : Side} {type : OrderType} {q p : Rat} {ro : Bool}
    (h : submit w sym side type q p ro = .error (k, w')) : WExt w w' :=
  WExt.of_eq (submit_err h).1 (submit_err h).2

theorem updateActive_ext (w : World) (sym : Nat) : WExt w (updateActive w sym) := by
  unfold updateActive
  exact .of_shrink rfl (fun s id hm => mem_getD_upd_sub _ _ _ _ _ (fun x z hz => (List.mem_filter.mp hz).1) hm)

theorem clearActive_ext (w : World) (sym : Nat) : WExt w { w with active := Acc.upd w.active sym (fun _ => []) } :=
  .of_shrink rfl (fun _ _ hm => mem_getD_upd_sub _ _ _ _ _ (fun _ _ hz => by cases hz) hm)

end FrameLemmas

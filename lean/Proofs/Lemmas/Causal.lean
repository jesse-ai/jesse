/-
  Proofs/Lemmas/Causal.lean — `Online f`: `f` keeps the length and commutes with `take`.  `Online` is closed under
  the combinators of Jesse/Ind/Core.lean, so ONE walk over a kernel's structure gives both the causality that C13
  states and the length preservation that C14 needs.  Core Lean only.
-/
import Jesse.Ind.Core

namespace Jesse.Ind

/-- No look-ahead, the notion of C13.  C13's own wording, "the series computed on a prefix equals the prefix of the
    series computed on the full input", is `Causal.prefix_eq` and needs `LenPres` as well. -/
def Causal {α β} (f : List α → List β) : Prop :=
  ∀ xs ys k, xs.take k = ys.take k → (f xs).take k = (f ys).take k

def LenPres {α β} (f : List α → List β) : Prop := ∀ xs, (f xs).length = xs.length

theorem Causal.prefix_eq {α β} {f : List α → List β} (hc : Causal f) (hl : LenPres f) (xs : List α) (k : Nat) :
    f (xs.take k) = (f xs).take k := by
  rw [← hc (xs.take k) xs k (by rw [List.take_take, Nat.min_self])]
  exact (List.take_of_length_le (by rw [hl, List.length_take]; exact Nat.min_le_left ..)).symm

/-- A conjunction and not a structure, so that `Online (sma p)` unifies with `Online (trailing _ _)`
    by unfolding to applied terms (as a structure, `online_sma p := online_trailing _ _` is a type mismatch). -/
def Online {α β} (f : List α → List β) : Prop :=
  LenPres f ∧ ∀ xs k, f (xs.take k) = (f xs).take k

theorem Online.len {α β} {f : List α → List β} (h : Online f) : LenPres f := h.1

theorem Online.take {α β} {f : List α → List β} (h : Online f) (xs : List α) (k : Nat) :
    f (xs.take k) = (f xs).take k := h.2 xs k

theorem Online.causal {α β} {f : List α → List β} (h : Online f) : Causal f :=
  fun xs ys k e => by rw [← h.take, ← h.take, e]

theorem causal_id {α} : Causal (fun xs : List α => xs) := fun _ _ _ h => h

theorem online_map {α β} (h : α → β) : Online (List.map h) :=
  ⟨fun _ => List.length_map h, fun _ _ => List.map_take⟩

theorem online_comp {α β γ} {f : List α → List β} {g : List β → List γ} (hf : Online f) (hg : Online g) :
    Online (fun xs => g (f xs)) :=
  ⟨fun xs => (hg.len _).trans (hf.len xs), fun xs k => (congrArg g (hf.take xs k)).trans (hg.take _ k)⟩

theorem lenPres_zipWith {α β γ δ} (h : β → γ → δ) {f : List α → List β} {g : List α → List γ}
    (hf : LenPres f) (hg : LenPres g) : LenPres (fun xs => List.zipWith h (f xs) (g xs)) := fun xs => by
  rw [List.length_zipWith, hf, hg, Nat.min_self]

theorem online_zipWith {α β γ δ} (h : β → γ → δ) {f : List α → List β} {g : List α → List γ}
    (hf : Online f) (hg : Online g) : Online (fun xs => List.zipWith h (f xs) (g xs)) :=
  ⟨lenPres_zipWith h hf.len hg.len, fun xs k => by simp only [hf.take, hg.take, List.take_zipWith]⟩

@[simp] theorem length_scanState {σ α β} (step : σ → α → σ × β) (s : σ) (xs : List α) :
    (scanState step s xs).length = xs.length := by
  induction xs generalizing s with
  | nil => rfl
  | cons x xs ih => simp [scanState, ih]

theorem scanState_take {σ α β} (step : σ → α → σ × β) (s : σ) (xs : List α) (k : Nat) :
    scanState step s (xs.take k) = (scanState step s xs).take k := by
  induction xs generalizing s k with
  | nil => simp [scanState]
  | cons x xs ih =>
    cases k with
    | zero => simp [scanState]
    | succ k => simp [scanState, ih]

/-- `s` is fixed.  The scans whose initial state is read from the input (`rmaR`, `lrsiR`, `emdPeak`: the LAST row)
    are no instances, and are not causal (C13). -/
theorem online_scanState {σ α β} (step : σ → α → σ × β) (s : σ) : Online (scanState step s) :=
  ⟨length_scanState step s, scanState_take step s⟩

theorem causal_scanState {σ α β} (step : σ → α → σ × β) (s : σ) : Causal (scanState step s) :=
  (online_scanState step s).causal

@[simp] theorem length_imap {α β} (g : List α → Nat → β) (xs : List α) : (imap g xs).length = xs.length := by
  simp [imap]

theorem lenPres_imap {α β} (g : List α → Nat → β) : LenPres (imap g) := length_imap g

theorem imap_take_congr {α β} (g : List α → Nat → β) (xs : List α) (k m : Nat) (hm : m ≤ k)
    (h : ∀ i, i < m → i < xs.length → g (xs.take k) i = g xs i) :
    (imap g (xs.take k)).take m = (imap g xs).take m := by
  unfold imap
  rw [← List.map_take, ← List.map_take, List.take_range, List.take_range, List.length_take,
    ← Nat.min_assoc, Nat.min_eq_left hm]
  exact List.map_congr_left fun i hi => by
    have := Nat.lt_min.1 (List.mem_range.1 hi); exact h i this.1 this.2

theorem causal_imap {α β} (g : List α → Nat → β)
    (hloc : ∀ xs ys i, i < xs.length → i < ys.length → xs.take (i + 1) = ys.take (i + 1) → g xs i = g ys i) :
    Causal (imap g) := fun xs ys k e => by
  have h (zs : List α) := imap_take_congr g zs k k (Nat.le_refl k) fun i hik hi =>
    hloc _ _ i (by rw [List.length_take]; exact Nat.lt_min.2 ⟨hik, hi⟩) hi (by rw [List.take_take, Nat.min_eq_left hik])
  rw [← h xs, ← h ys, e]

theorem online_imap {α β} (g : List α → Nat → β)
    (hloc : ∀ xs ys i, i < xs.length → i < ys.length → xs.take (i + 1) = ys.take (i + 1) → g xs i = g ys i) :
    Online (imap g) := ⟨length_imap g, (causal_imap g hloc).prefix_eq (length_imap g)⟩

theorem online_pmap {α β} (h : List α → β) : Online (pmap h) :=
  online_imap (fun xs i => h (xs.take (i + 1))) fun _ _ _ _ _ e => congrArg h e

@[simp] theorem length_pmap {α β} (h : List α → β) (xs : List α) : (pmap h xs).length = xs.length :=
  (online_pmap h).len xs

@[simp] theorem length_trailing {α β} (p : Nat) (g : List α → Option β) (xs : List α) :
    (trailing p g xs).length = xs.length := length_pmap _ xs

theorem online_trailing {α β} (p : Nat) (g : List α → Option β) : Online (trailing p g) :=
  online_pmap fun pre => if pre.length < p then none else g (lastN p pre)

theorem lenPres_shiftR {α} (k : Nat) (fill : α) : LenPres (shiftR k fill) := fun xs => by simp [shiftR]

theorem causal_shiftR {α} (k : Nat) (fill : α) : Causal (shiftR k fill) := fun xs ys m e => by
  have h (zs : List α) : shiftR k fill (zs.take m) = (shiftR k fill zs).take m := by
    unfold shiftR
    rw [List.take_take, List.length_take, List.take_append, List.take_append, List.take_take,
      Nat.min_eq_left (Nat.le_trans (Nat.sub_le _ _) (Nat.min_le_left _ _))]
  rw [← h xs, ← h ys, e]

theorem lastN_of_le {α} (p : Nat) (xs : List α) (h : xs.length ≤ p) : lastN p xs = xs := by
  rw [lastN, Nat.sub_eq_zero_of_le h, List.drop_zero]

theorem length_lastN {α} (p : Nat) (xs : List α) : (lastN p xs).length = min p xs.length := by
  rw [lastN, List.length_drop, Nat.sub_sub_eq_min, Nat.min_comm]

theorem lastN_lastN {α} (p : Nat) (xs : List α) : lastN p (lastN p xs) = lastN p xs :=
  lastN_of_le _ _ (length_lastN p xs ▸ Nat.min_le_left p _)

theorem lastN_map {α β} (p : Nat) (f : α → β) (pre : List α) : lastN p (pre.map f) = (lastN p pre).map f := by
  unfold lastN
  rw [List.length_map, List.map_drop]

end Jesse.Ind

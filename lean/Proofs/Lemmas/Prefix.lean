/-
  Proofs/Lemmas/Prefix.lean — helper lemmas for C01: everything the simulators read from the input
  arrays at iteration `i` lies in the first `i+1` rows.
-/
import Jesse.Engine
import Proofs.Lemmas.ListFacts
import Proofs.Lemmas.Py

namespace PrefixLemmas
open Jesse Jesse.Eng

def Agree (n : Nat) (a b : List (List Candle)) : Prop :=
  a.length = b.length ∧ ∀ s, (a.getD s []).take n = (b.getD s []).take n

theorem Agree.refl (n : Nat) (a : List (List Candle)) : Agree n a a := ⟨rfl, fun _ => rfl⟩

theorem fixedRow_agree {xs ys : List Candle} {n i : Nat} (h : xs.take n = ys.take n) (hi : i < n) :
    fixedRow xs i = fixedRow ys i := by
  unfold fixedRow
  rw [getElem?_of_take_eq h hi, getElem?_of_take_eq h (Nat.lt_of_le_of_lt (Nat.sub_le i 1) hi)]

theorem set_take_agree {xs ys : List Candle} {n i : Nat} (c : Candle) (h : xs.take n = ys.take n) :
    (xs.set i c).take n = (ys.set i c).take n := by
  rw [List.take_set, List.take_set, h]

theorem fixedFirst_agree {xs ys : List Candle} {n i : Nat} (h : xs.take n = ys.take n) (hi : i < n) :
    (fixedFirst xs i).take n = (fixedFirst ys i).take n := by
  unfold fixedFirst
  rw [fixedRow_agree h hi]
  split
  · split
    · exact set_take_agree _ h
    · exact h
  · exact h

theorem slice_agree {xs ys : List Candle} {n : Nat} (a b : Nat) (hb : b ≤ n) (h : xs.take n = ys.take n) :
    Py.slice xs (some (a : Int)) (some (b : Int)) = Py.slice ys (some (a : Int)) (some (b : Int)) := by
  rw [← Py.slice_take xs n a b hb, ← Py.slice_take ys n a b hb, h]

/-- the window of `tf` rows ending before row `hi`, read only when `tf` divides `hi` (so that its lower bound is not
    negative and Python does not count it from the end); the bounds come as the model writes them -/
theorem window_agree {xs ys : List Candle} {n hi tf : Nat} (h : xs.take n = ys.take n) (hhi : hi ≤ n) (hpos : 0 < hi)
    (hdiv : hi % tf = 0) {lo up : Int} (hlo : lo = hi - tf) (hup : up = hi) :
    Py.slice xs (some lo) (some up) = Py.slice ys (some lo) (some up) := by
  have hle : tf ≤ hi := Nat.le_of_dvd hpos (Nat.dvd_of_mod_eq_zero hdiv)
  obtain rfl : lo = ((hi - tf : Nat) : Int) := by omega
  subst hup
  exact slice_agree _ _ hhi h

theorem agree_set (n : Nat) (a b : List (List Candle)) (s : Nat) (x y : List Candle) (h : Agree n a b)
    (hxy : x.take n = y.take n) : Agree n (a.set s x) (b.set s y) := by
  refine ⟨by rw [List.length_set, List.length_set]; exact h.1, fun t => ?_⟩
  rw [getD_set, getD_set, h.1]
  split
  · exact hxy
  · exact h.2 t

end PrefixLemmas

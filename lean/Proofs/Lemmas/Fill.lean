/-
  Proofs/Lemmas/Fill.lean — what each branch of `Position._on_executed_order` does to a FUTURES world, in closed form
  and in signed quantities: the sign cases (long/short × buy/sell) are settled here once, for C03 and C06.
-/
import Proofs.Lemmas.Accounts
import Proofs.Lemmas.Num

namespace Jesse.Acc
open Jesse Jesse.Gen

theorem Pos.type_of_pos {p : Pos} (h : 0 < p.qty) : p.type = .long := if_pos h
theorem Pos.type_of_neg {p : Pos} (h : p.qty < 0) : p.type = .short := by
  unfold Pos.type; rw [if_neg (not_lt.mpr h.le), if_pos h]

theorem Pos.type_eq_of_mul_pos {p p' : Pos} (h : 0 < p.qty * p'.qty) : p'.type = p.type := by
  rcases mul_pos_iff.mp h with ⟨h1, h2⟩ | ⟨h1, h2⟩
  · rw [Pos.type_of_pos h1, Pos.type_of_pos h2]
  · rw [Pos.type_of_neg h1, Pos.type_of_neg h2]

variable {w : World} {s : Nat} {p : Pos}

/-- only the opening branch needs `hs`: `openTrade` reads the position back after `updateQty` has written it -/
theorem mutOpen_futures (hk : w.kind = .futures) (hs : s < w.pos.length) (hp : getD w.pos s = p) (q price : Rat) :
    mutOpen w s q price =
      { w with pos := upd w.pos s (fun _ => { p with entry := some price, prevQty := p.qty, qty := q }),
               temp := upd w.temp s (fun t => { t with type := some (Pos.type { qty := q }), isOpen := true }) } := by
  unfold mutOpen openTrade updateQty
  simp only [hk, upd_upd, getD_upd_same _ _ _ hs]
  rw [upd_getD w.pos, hp]
  rfl

theorem mutClose_futures (hk : w.kind = .futures) (hp : getD w.pos s = p) {e : Rat} (he : p.entry = some e) (price : Rat) :
    mutClose w s price =
      closeTrade { w with wallet := w.wallet + estimatePNL (absR p.qty) e price p.type 0,
                          pos := upd w.pos s (fun _ => { p with entry := none, prevQty := p.qty, qty := 0 }) } s := by
  unfold mutClose updateQty addRealized
  simp only [hk, hp, he, upd_upd]
  rw [upd_getD w.pos, hp]
  rfl

theorem mutClose_futures_open (hk : w.kind = .futures) (hp : getD w.pos s = p) {e : Rat} (he : p.entry = some e) {t : Trade}
    (ht : getD w.temp s = t) (hopen : t.isOpen = true) (price : Rat) :
    mutClose w s price =
      { w with wallet := w.wallet + estimatePNL (absR p.qty) e price p.type 0,
               pos := upd w.pos s (fun _ => { p with entry := none, prevQty := p.qty, qty := 0 }),
               trades := w.trades ++ [t], temp := upd w.temp s (fun _ => {}) } := by
  rw [mutClose_futures hk hp he]
  unfold closeTrade
  simp only [ht, hopen, not_true_eq_false, if_false]

theorem mutIncrease_futures (hk : w.kind = .futures) (hp : getD w.pos s = p) {e : Rat} (he : p.entry = some e) {q : Rat}
    (hd : p.qty * q > 0) (price : Rat) :
    mutIncrease w s q price =
      { w with pos := upd w.pos s (fun _ =>
          { p with entry := some (estimateAveragePrice (absR q) price p.qty e), prevQty := p.qty, qty := p.qty + q }) } := by
  unfold mutIncrease updateQty
  simp only [hk, hp, he, upd_upd]
  rcases mul_pos_iff.mp hd with ⟨hn, hq⟩ | ⟨hn, hq⟩
  · rw [Pos.type_of_pos hn, if_pos rfl, upd_getD w.pos, hp, absR_of_pos hq]
    rfl
  · rw [Pos.type_of_neg hn, if_neg (by decide), if_pos rfl, upd_getD w.pos, hp, absR_of_neg hq]
    simp only [Function.comp_apply, sub_neg_eq_add]

theorem mutReduce_futures (hk : w.kind = .futures) (hp : getD w.pos s = p) {e : Rat} (he : p.entry = some e) {q : Rat}
    (hd : p.qty * q < 0) (price : Rat) :
    mutReduce w s q price =
      { w with wallet := w.wallet + estimatePNL (absR q) e price p.type 0,
               pos := upd w.pos s (fun _ => { p with prevQty := p.qty, qty := p.qty + q }) } := by
  unfold mutReduce updateQty addRealized
  simp only [hk, hp, he]
  rcases mul_neg_iff.mp hd with ⟨hn, hq⟩ | ⟨hn, hq⟩
  · rw [Pos.type_of_pos hn, if_pos rfl, upd_getD w.pos, hp, absR_of_neg hq, he, sub_neg_eq_add]
  · rw [Pos.type_of_neg hn, if_neg (by decide), if_pos rfl, upd_getD w.pos, hp, absR_of_pos hq, he]

theorem estimatePNL_sign (x e c : Rat) {p : Pos} (h : p.qty ≠ 0) :
    estimatePNL x e c p.type 0 = (if p.qty < 0 then -1 else 1) * (absR x * (c - e)) := by
  unfold estimatePNL
  rcases lt_or_gt_of_ne h with hn | hn
  · rw [Pos.type_of_neg hn, if_pos rfl, if_pos hn]; ring
  · rw [Pos.type_of_pos hn, if_neg (by decide), if_neg (not_lt.mpr hn.le)]; ring

theorem estimatePNL_close (e c : Rat) {p : Pos} (h : p.qty ≠ 0) :
    estimatePNL (absR p.qty) e c p.type 0 = p.qty * (c - e) := by
  rw [estimatePNL_sign _ _ _ h, absR_absR]
  rcases lt_or_gt_of_ne h with hn | hn
  · rw [if_pos hn, absR_of_neg hn]; ring
  · rw [if_neg (not_lt.mpr hn.le), absR_of_pos hn]; ring

theorem estimatePNL_reduce (e c : Rat) {p : Pos} {q : Rat} (hd : p.qty * q < 0) :
    estimatePNL (absR q) e c p.type 0 = -q * (c - e) := by
  rw [estimatePNL_sign _ _ _ (left_ne_zero_of_mul (ne_of_lt hd)), absR_absR]
  rcases mul_neg_iff.mp hd with ⟨hn, hq⟩ | ⟨hn, hq⟩
  · rw [if_neg (not_lt.mpr hn.le), absR_of_neg hq]; ring
  · rw [if_pos hn, absR_of_pos hq]; ring

theorem averagePrice_signed (c e : Rat) {a q : Rat} (hd : a * q > 0) :
    (a + q) * estimateAveragePrice (absR q) c a e = q * c + a * e := by
  unfold estimateAveragePrice
  rcases mul_pos_iff.mp hd with ⟨hn, hq⟩ | ⟨hn, hq⟩
  · rw [absR_absR, absR_of_pos hn, absR_of_pos hq]
    have : q + a ≠ 0 := by linarith
    field_simp
    ring
  · rw [absR_absR, absR_of_neg hn, absR_of_neg hq]
    have : -q + -a ≠ 0 := by linarith
    field_simp
    ring

end Jesse.Acc

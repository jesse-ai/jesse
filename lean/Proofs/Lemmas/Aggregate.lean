/-
  Proofs/Lemmas/Aggregate.lean — for C07: the folds of the generated aggregation function are the reference's
  maximum, minimum and sum; `Spec.windows` and `Spec.visible` split at every multiple of the window length.
-/
import Spec.Aggregate
import Proofs.Lemmas.Pick

namespace AggLemmas
open Jesse Spec

theorem foldl_max_eq (xs : List Rat) (acc : Rat) :
    xs.foldl (fun a b => if a < b then b else a) acc = maxOf xs acc := by
  induction xs generalizing acc with
  | nil => rfl
  | cons x xs ih => simp only [List.foldl_cons, maxOf]; exact ih _

theorem foldl_min_eq (xs : List Rat) (acc : Rat) :
    xs.foldl (fun a b => if b < a then b else a) acc = minOf xs acc := by
  induction xs generalizing acc with
  | nil => rfl
  | cons x xs ih => simp only [List.foldl_cons, minOf]; exact ih _

theorem foldl_add_eq (xs : List Rat) (acc : Rat) :
    xs.foldl (· + ·) acc = acc + sumOf xs := by
  induction xs generalizing acc with
  | nil => simp only [List.foldl_nil, sumOf]; exact (Rat.add_zero acc).symm
  | cons x xs ih => simp only [List.foldl_cons, sumOf]; rw [ih]; rw [Rat.add_assoc]

theorem maxOf_spec (xs : List Rat) (acc : Rat) :
    maxOf xs acc ∈ acc :: xs ∧ ∀ y ∈ acc :: xs, y ≤ maxOf xs acc :=
  pick_spec (r := (· ≤ ·)) (fun _ => Rat.le_refl) Rat.le_trans maxR_pick (F := fun m l => maxOf l m)
    (fun _ => rfl) (fun _ _ _ => rfl) xs acc

theorem minOf_spec (xs : List Rat) (acc : Rat) :
    minOf xs acc ∈ acc :: xs ∧ ∀ y ∈ acc :: xs, minOf xs acc ≤ y :=
  pick_spec (r := (· ≥ ·)) (fun _ => Rat.le_refl) (fun h1 h2 => Rat.le_trans h2 h1) minR_pick
    (F := fun m l => minOf l m) (fun _ => rfl) (fun _ _ _ => rfl) xs acc

theorem maxOf_cons (x : Rat) (xs : List Rat) (acc : Rat) : maxOf (x :: xs) acc = maxOf xs (maxR acc x) := rfl

theorem minOf_cons (x : Rat) (xs : List Rat) (acc : Rat) : minOf (x :: xs) acc = minOf xs (minR acc x) := rfl

theorem windows_nil (m : Nat) : windows m [] = [] := by
  rw [windows]; simp

theorem windows_zero (ones : List Candle) : windows 0 ones = [] := by
  rw [windows]; simp

theorem windows_step (m : Nat) (ones : List Candle) (hm : 0 < m) (hne : ones ≠ []) :
    windows m ones = ones.take m :: windows m (ones.drop m) := by
  rw [windows]
  have : ¬ (m = 0 ∨ ones = []) := by
    intro h; rcases h with h | h
    · omega
    · exact hne h
  simp [this]

theorem windows_block_append (m : Nat) (block rest : List Candle) (hm : 0 < m) (hb : block.length = m) :
    windows m (block ++ rest) = block :: windows m rest := by
  have hne : block ++ rest ≠ [] := List.ne_nil_of_length_pos (by rw [List.length_append]; omega)
  rw [windows_step m _ hm hne]
  congr 1
  · rw [List.take_append_of_le_length (by omega), List.take_of_length_le (by omega)]
  · rw [List.drop_append_of_le_length (by omega), List.drop_of_length_le (by omega)]; simp

theorem windows_short (m : Nat) (b : List Candle) (hm : 0 < m) (hne : b ≠ []) (hb : b.length ≤ m) :
    windows m b = [b] := by
  rw [windows_step m b hm hne, List.take_of_length_le hb, List.drop_of_length_le hb, windows_nil]

theorem windows_prefix_append (m k : Nat) (a b : List Candle) (hm : 0 < m) (ha : a.length = k * m) :
    windows m (a ++ b) = windows m a ++ windows m b := by
  induction k generalizing a with
  | zero =>
    have : a = [] := List.length_eq_zero_iff.mp (by simpa using ha)
    subst this; simp [windows_nil]
  | succ k ih =>
    have hlen : m ≤ a.length := by rw [ha]; exact Nat.le_mul_of_pos_left m (by omega)
    have hsplit : a = a.take m ++ a.drop m := (List.take_append_drop m a).symm
    have htl : (a.take m).length = m := by simp; omega
    have hdl : (a.drop m).length = k * m := by
      simp only [List.length_drop, ha]; rw [Nat.succ_mul]; omega
    rw [hsplit, List.append_assoc, windows_block_append m _ _ hm htl, windows_block_append m _ _ hm htl,
      ih (a.drop m) hdl]
    rfl

theorem visible_append (m k : Nat) (a b : List Candle) (hm : 0 < m) (ha : a.length = k * m) :
    visible m (a ++ b) = visible m a ++ visible m b := by
  unfold visible; rw [windows_prefix_append m k a b hm ha, List.filterMap_append]

theorem visible_window (m : Nat) (b : List Candle) (g : Candle) (hm : 0 < m) (hb : b.length ≤ m) (hg : aggregate b = some g) :
    visible m b = [g] := by
  have hne : b ≠ [] := by rintro rfl; cases hg
  unfold visible; rw [windows_short m b hm hne hb, List.filterMap_cons, hg, List.filterMap_nil]

end AggLemmas

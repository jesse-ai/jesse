/-
  Proofs/Lemmas/StoreArray.lean — for the composition "candle store on the array class = candle store on a list"
  (Proofs/C20.lean): `Holds a arr` packs what every call of the store on its array needs and gives back, so each call
  (and the search loop of `add_candle`) is one lemma from `Holds` to `Holds`, read off the `refines_*` theorems of C18.
-/
import Jesse.StoreD
import Spec.ListArray
import Proofs.Lemmas.DynArray
import Proofs.C18
import Proofs.Lemmas.Store

namespace StoreArray
open Jesse Jesse.StoreD Jesse.DynArray

theorem ts_enc (c : Candle) : ts (enc c) = (c.ts : Rat) := rfl

/-- `nodrop`: the store creates its arrays as `DynamicNumpyArray((bucket_size, 6))`, without `drop_at` -/
structure Holds (a : DynArray) (arr : List Candle) : Prop where
  inv : Inv a
  nodrop : a.dropAt = none
  abs : a.abs = arr.map enc

/-- an operation that ends in `Holds`, in the unpacked form the theorems of C20 state -/
theorem Holds.unpack {X : Except Err DynArray} {out : List Candle} (h : ∃ a', X = .ok a' ∧ Holds a' out) :
    ∃ a', X = .ok a' ∧ a'.abs = out.map enc ∧ Inv a' ∧ a'.dropAt = none :=
  let ⟨a', hok, g⟩ := h
  ⟨a', hok, g.abs, g.inv, g.nodrop⟩

namespace Holds
variable {a : DynArray} {arr : List Candle} (h : Holds a arr)
include h

theorem len : a.len = (arr.length : Int) := by rw [C18.refines_len a h.inv, h.abs, List.length_map]

theorem getItem_neg (i : Nat) :
    a.getItem (-(i : Int)) = match Py.getIdx arr (-(i : Int)) with
      | some x => .ok (enc x)
      | none => .error .IndexError := by
  rw [C18.refines_getItem a h.inv, h.abs, Py.getIdx_map]
  cases Py.getIdx arr (-(i : Int)) <;> rfl

theorem getItem_last {last : Candle} (hl : arr.getLast? = some last) : a.getItem (-1) = .ok (enc last) := by
  rw [C18.refines_getItem a h.inv, Py.getIdx_neg_one, h.abs, List.getLast?_map, hl]; rfl

theorem appendMultiple (cs : List Candle) :
    ∃ a', a.appendMultiple (cs.map enc) = .ok a' ∧ Holds a' (arr ++ cs) := by
  obtain ⟨a', hok, ha, hi⟩ := C18.refines_appendMultiple a h.inv (cs.map enc)
    (fun d hd => by rw [h.nodrop] at hd; cases hd) (fun hh => absurd h.nodrop hh)
  refine ⟨a', hok, hi, (appendMultiple_dropAt a a' _ hok).trans h.nodrop, ?_⟩
  rw [ha, h.nodrop, h.abs, List.map_append]; rfl

theorem append (c : Candle) : ∃ a', a.append (enc c) = .ok a' ∧ Holds a' (arr ++ [c]) :=
  append_eq_appendMultiple a h.inv _ ▸ h.appendMultiple [c]

theorem setItem_neg (c : Candle) (i : Nat) (hi : 1 ≤ i) (hin : i ≤ arr.length) :
    ∃ a', a.setItem (-(i : Int)) (enc c) = .ok a' ∧ Holds a' (arr.set (arr.length - i) c) := by
  have hset := C18.refines_setItem a h.inv (-(i : Int)) (enc c)
  rw [h.abs, List.length_map, Py.normIdx_neg _ i hi hin] at hset
  obtain ⟨a', hok, ha, hinv⟩ := hset
  exact ⟨a', hok, hinv, (setItem_dropAt a a' _ _ hok).trans h.nodrop, by rw [ha, List.map_set]⟩

/-- the loop of `add_candle` that looks for an older candle, with `fuel` rows still to look at: the loop variable is
    `i = len + 1 - fuel`, and the candles behind those rows (`arr.drop fuel`) have been seen not to match -/
theorem replaceLoop (c : Candle) (fuel : Nat) : ∀ i : Nat, 1 ≤ i → fuel + i = arr.length + 1 →
    (∀ y ∈ arr.drop fuel, y.ts ≠ c.ts) →
    ∃ a', StoreD.replaceLoop a (enc c) fuel i = .ok a' ∧ Holds a' (Store.replaceFromEnd arr c) := by
  induction fuel with
  | zero => exact fun i _ _ hno => ⟨a, rfl, (Store.replaceFromEnd_nomatch arr c hno).symm ▸ h⟩
  | succ f ih =>
    intro i hi hfi hno
    have hpos : arr.length - i = f := by omega
    have hlt : f < arr.length := by omega
    have hx : arr[arr.length - i]? = some arr[f] := hpos ▸ List.getElem?_eq_getElem hlt
    rw [StoreD.replaceLoop, h.getItem_neg, Py.getIdx_neg _ _ hi (by omega), hx]
    simp only [ts_enc, Rat.intCast_inj]
    split
    · rename_i hm
      rw [Store.replaceFromEnd_set arr c _ f (List.getElem?_eq_getElem hlt) hm hno, ← hpos]
      exact h.setItem_neg c i hi (by omega)
    · rename_i hm
      refine ih (i + 1) (by omega) (by omega) fun y hy => ?_
      rw [List.drop_eq_getElem_cons hlt] at hy
      rcases List.mem_cons.mp hy with h1 | h1
      · exact h1 ▸ hm
      · exact hno y h1

theorem setTail (cs : List Candle) (h1 : 1 ≤ cs.length) (hk : cs.length ≤ arr.length) :
    ∃ a', a.setSlice (some (-(cs.length : Int))) none (cs.map enc) = .ok a' ∧
      Holds a' (arr.take (arr.length - cs.length) ++ cs) := by
  have hka : cs.length ≤ a.abs.length := by rw [h.abs, List.length_map]; exact hk
  obtain ⟨a', hok, hs, hi⟩ := C18.refines_setSlice a h.inv (some (-(cs.length : Int))) none (cs.map enc)
    (by rw [Py.slice_tail_length a.abs cs.length h1 hka, List.length_map])
  refine ⟨a', hok, hi, (setSlice_dropAt a a' _ _ _ hok).trans h.nodrop, ?_⟩
  rw [Py.setSlice_tail a.abs (cs.map enc) cs.length h1 hka (List.length_map ..)] at hs
  injection hs with hs
  rw [← hs, h.abs, List.length_map, List.map_append, List.map_take]

end Holds

end StoreArray

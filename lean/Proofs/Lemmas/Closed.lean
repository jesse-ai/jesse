/-
  Proofs/Lemmas/Closed.lean — one walk over the call tree of the engine model.  A predicate on engine states that
  survives the primitive mutations (`Closed`) survives every function of the strategy layer, for EVERY user
  strategy; one that also survives writes to a symbol's candle store (`ClosedAt`) survives the matching loops, a
  whole minute, a whole chunk and the symbol's part of an iteration; one that survives writes to every store
  (`ClosedAll`) survives whole runs of both simulators.  Instances: `cfg_closed`, `stores_closed` here, `EExt` in
  Proofs/Lemmas/Frame.lean.
-/
import Jesse.Engine
import Proofs.Lemmas.WorldFrame
import Proofs.Lemmas.Loops

namespace Jesse.Eng
open Jesse Jesse.Gen Jesse.Acc FrameLemmas

variable {M : Type}

/-- `step` covers every primitive mutation of the strategy layer: each leaves the candle stores and the configuration
    alone and extends the world (`WExt`: what `submit`, `execute`, `cancel`, `updateActive`, `setPrice` and the emptying of
    a registry do); the other fields may change at will — so a `Closed` predicate can read the world (through what `WExt`
    keeps), the stores and the configuration only, not the log, the clock, the strategies' states or the market queue. -/
structure Closed (P : Engine M → Prop) : Prop where
  step : ∀ {e e' : Engine M}, P e → WExt e.w e'.w → e'.stores = e.stores → e'.cfg = e.cfg → P e'

structure ClosedAt (sym : Nat) (P : Engine M → Prop) : Prop extends Closed P where
  store : ∀ {e : Engine M} (f : SymStore → SymStore), P e → P { e with stores := upd e.stores sym f }

/-! ### a stopped run stays stopped

The error flag is sticky (`err`, Jesse/Engine.lean): `fail` never clears it, and every loop of the model tests it before it
does anything, so from a stopped state each of them returns its argument — except the route step, which may still take the
daily equity sample.  `Closed` cannot say this: it lets `err` change.  A stopped state is stated as `e.err.isSome`, the
model's own test; `= none` / `≠ none` stand only in the property theorems stated in that form (C02, C05, C09, C12) and in
the lemmas that feed them. -/

theorem fail_err (e : Engine M) (k : Err) : (fail e k).err.isSome := by
  unfold fail; split
  · assumption
  · rfl

theorem fail_err_ne (e : Engine M) (k : Err) : (fail e k).err ≠ none := Option.isSome_iff_ne_none.mp (fail_err e k)

theorem fail_w (e : Engine M) (k : Err) : (fail e k).w = e.w := by fun_cases fail e k <;> rfl

theorem fail_of_err {e : Engine M} (k : Err) (h : e.err.isSome) : fail e k = e := if_pos h

theorem addGenerated_err {e : Engine M} (sym tf : Nat) (g : Except Err Candle) (h : e.err.isSome) :
    (match g with | .ok g => addCandle e sym tf g | .error k => fail e k).err.isSome := by
  cases g
  · exact fail_err _ _
  · exact h

section
variable [Inhabited M] (u : UserStrategy M)

theorem executePendingMarketOrders_of_err (fuel : Nat) {e : Engine M} (h : e.err.isSome) :
    executePendingMarketOrders u fuel e = e := by
  unfold executePendingMarketOrders
  split
  · rfl
  · cases fuel <;> unfold executePendingMarketOrders.go
    · exact fail_of_err _ h
    · exact if_pos h

theorem executePendingMarketOrders_go_drained (fuel : Nat) (e : Engine M) (i : Nat)
    (h : (executePendingMarketOrders.go u fuel e i).err = none) :
    (executePendingMarketOrders.go u fuel e i).toExecute = [] := by
  fun_induction executePendingMarketOrders.go u fuel e i
  · exact absurd h (fail_err_ne _ _)
  · rename_i he; exact absurd h (Option.isSome_iff_ne_none.mp he)
  · rfl
  · rename_i ih; exact ih h

theorem matchLoop_of_err (fuel : Nat) {e : Engine M} (sym : Nat) (cur : Candle) (cands : List Nat)
    (resel : Engine M → Candle → List Nat) (st : Bool) (h : e.err.isSome) :
    matchLoop u fuel e sym cur cands resel st = (e, cur) := by
  cases fuel <;> unfold matchLoop
  · rw [fail_of_err _ h]
  · exact if_pos h

theorem routesStep_err (fuel : Nat) {e : Engine M} (i b : Nat) (h : e.err.isSome) : (routesStep u fuel e i b).err.isSome := by
  unfold routesStep
  rw [foldl_keeps (P := (· = e)) (fun x _ hx => by subst hx; exact if_pos h) _ rfl]
  dsimp only
  rw [executePendingMarketOrders_of_err u fuel h]
  exact ite_keeps (P := fun x : Engine M => x.err.isSome = true) h h

theorem stepAt_of_err (fuel i : Nat) (inputs : List (List Candle)) {e : Engine M} (h : e.err.isSome) :
    stepAt u fuel inputs e i = (e, inputs) := if_pos h

theorem skipAt_of_err (fuel i step : Nat) (inputs : List (List Candle)) {e : Engine M} (h : e.err.isSome) :
    skipAt u fuel inputs e i step = (e, inputs) := if_pos h

end

theorem Closed.and {P Q : Engine M → Prop} (hP : Closed P) (hQ : Closed Q) : Closed (fun e => P e ∧ Q e) where
  step hp hw hs hc := ⟨hP.step hp.1 hw hs hc, hQ.step hp.2 hw hs hc⟩

namespace Closed
variable {P : Engine M → Prop} (h : Closed P)
include h

theorem of_eq {e e' : Engine M} (hp : P e) (hw : e'.w = e.w) (hs : e'.stores = e.stores) (hc : e'.cfg = e.cfg) : P e' :=
  h.step hp (hw ▸ WExt.refl _) hs hc

theorem world {e : Engine M} {w' : World} (hp : P e) (hw : WExt e.w w') : P { e with w := w' } := h.step hp hw rfl rfl

theorem logE {e : Engine M} (ev : Event) (hp : P e) : P (logE e ev) := h.of_eq hp rfl rfl rfl

theorem fail {e : Engine M} (k : Err) (hp : P e) : P (fail e k) := by
  unfold Eng.fail; split
  · exact hp
  · exact h.of_eq hp rfl rfl rfl

theorem setStrat {e : Engine M} (r : Nat) (f : StratState M → StratState M) (hp : P e) : P (setStrat e r f) :=
  h.of_eq hp rfl rfl rfl

theorem createOrder {e : Engine M} (sym : Nat) (a : ApiCall) (via : Option Via) (hp : P e) : P (createOrder e sym a via) := by
  fun_cases Eng.createOrder e sym a via
  · exact hp
  · rename_i hs; exact h.fail _ (h.world hp (submit_err_ext hs))
  · rename_i hs _ _ _; exact h.logE _ (h.step hp (submit_ok_ext hs) rfl rfl)

theorem brokerSubmit {e : Engine M} (sym : Nat) (r : Except Err ApiCall) (via : Option Via) (hp : P e) :
    P (brokerSubmit e sym r via) := by
  fun_cases Eng.brokerSubmit e sym r via
  · exact hp
  · exact h.fail _ hp
  · exact h.createOrder _ _ _ hp

theorem cancelOrder {e : Engine M} (id : Nat) (hp : P e) : P (cancelOrder e id) := by
  fun_cases Eng.cancelOrder e id
  · exact h.logE _ (h.world hp (cancel_ext _ _))
  · exact hp

theorem saveDaily {e : Engine M} (hp : P e) : P (saveDaily e) := h.of_eq hp rfl rfl rfl

theorem entryExits {e : Engine M} (r : Nat) (long spot : Bool) (d : Option Rows) (isStop : Bool) (hp : P e) :
    P (entryExits e r long spot d isStop) := by
  fun_cases Eng.entryExits e r long spot d isStop
  · exact h.fail _ hp
  · exact h.fail _ hp
  · exact h.setStrat _ _ hp
  · exact hp

theorem resetStrategy {e : Engine M} (r : Nat) (hp : P e) : P (resetStrategy e r) :=
  h.step hp (clearActive_ext e.w (routeOf e r).sym) rfl rfl

theorem setCurrentPrice {e : Engine M} (s : Nat) (p : Rat) (hp : P e) : P (setCurrentPrice e s p) :=
  h.world hp (setPrice_ext _ _ _)

section strategy
variable [Inhabited M] (u : UserStrategy M)

theorem submitEntries {e : Engine M} (r : Nat) (buy : Bool) (rows : Rows) (hp : P e) : P (submitEntries e r buy rows) :=
  foldl_keeps (fun _ _ hp' => ite_keeps hp' (h.brokerSubmit _ _ _ hp')) _ hp

theorem resubmitExits {e : Engine M} (r : Nat) (isStop : Bool) (rows : Rows) (hp : P e) : P (resubmitExits e r isStop rows) := by
  refine foldl_keeps (fun e' _ hp' => ?_) _ (foldl_keeps (fun e' _ hp' => ?_) _ hp)
  · exact ite_keeps hp' (ite_keeps hp' (h.brokerSubmit _ _ _ hp'))
  · exact ite_keeps (h.cancelOrder _ hp') hp'

theorem runHook {e : Engine M} (r : Nat) (name : String) (k : M → Decl → M × Decl) (hp : P e) : P (runHook e r name k) := by
  fun_cases Eng.runHook e r name k
  · exact hp
  · exact h.logE _ (h.setStrat _ _ hp)

theorem dmEntries {e : Engine M} (r : Nat) (hp : P e) : P (dmEntries e r) := by
  have key : ∀ (b : Bool) (rows : Rows) (f : StratState M → StratState M),
      P (Eng.submitEntries ((entryOrders (Eng.setStrat e r f) (routeOf e r).sym).foldl (fun e id => Eng.cancelOrder e id)
        (Eng.setStrat e r f)) r b rows) :=
    fun b rows f => h.submitEntries _ _ _ (foldl_keeps (fun _ _ => h.cancelOrder _) _ (h.setStrat _ _ hp))
  fun_cases Eng.dmEntries e r
  · exact h.fail _ hp
  · exact key _ _ _
  · exact h.setStrat _ _ hp
  · exact h.fail _ hp
  · exact key _ _ _
  · exact h.setStrat _ _ hp

theorem dmStop {e : Engine M} (r : Nat) (hp : P e) : P (dmStop e r) := by
  fun_cases Eng.dmStop e r
  · exact h.fail _ hp
  · exact h.resubmitExits _ _ _ (h.setStrat _ _ hp)
  · exact hp
  · exact hp

theorem dmTake {e : Engine M} (r : Nat) (hp : P e) : P (dmTake e r) := by
  fun_cases Eng.dmTake e r
  · exact h.fail _ hp
  · exact h.resubmitExits _ _ _ (h.setStrat _ _ hp)
  · exact hp
  · exact hp

theorem detectModifications {e : Engine M} (r : Nat) (hp : P e) : P (detectModifications e r) := by
  have h3 := h.dmTake r (h.dmStop r (h.dmEntries r hp))
  fun_cases Eng.detectModifications e r
  · exact hp
  · exact hp
  · exact h.dmEntries r hp
  · exact h.dmStop r (h.dmEntries r hp)
  · exact h3
  · exact h.fail _ h3
  · exact h3

theorem broadcast {e : Engine M} (r : Nat) (hp : P e) : P (broadcast e r) :=
  foldl_keeps (fun _ _ hp' => ite_keeps hp' (h.detectModifications _ hp')) _ hp

theorem executeCancel {e : Engine M} (r : Nat) (hp : P e) : P (executeCancel e r) := by
  fun_cases Eng.executeCancel e r
  · exact hp
  · exact h.fail _ hp
  · exact h.logE _ (h.broadcast _ (h.resetStrategy _ (h.of_eq (foldl_keeps (fun _ _ => h.cancelOrder _) _ hp) rfl rfl rfl)))

theorem openExitRows {e : Engine M} (r : Nat) (rows : Rows) (isStop : Bool) (hp : P e) : P (openExitRows e r rows isStop) :=
  foldl_keeps (fun _ _ hp' => ite_keeps hp' (ite_keeps (h.brokerSubmit _ _ _ hp') (h.brokerSubmit _ _ _ hp'))) _ hp

theorem onOpenPosition {e : Engine M} (r oid : Nat) (hp : P e) : P (onOpenPosition u e r oid) := by
  fun_cases Eng.onOpenPosition u e r oid
  · exact hp
  · refine h.detectModifications _ (h.runHook _ _ _ ?_)
    have h0 := h.broadcast r (h.setStrat r (fun s => { s with increased := 1 }) hp)
    have h1 : ∀ e1, P e1 → ∀ (c : Bool) rows b, P (if c then Eng.openExitRows e1 r rows b else e1) :=
      fun e1 h1 c rows b => ite_keeps (h.openExitRows _ _ _ h1) h1
    exact h1 _ (h1 _ h0 _ _ _) _ _ _

theorem onClosePosition {e : Engine M} (r oid : Nat) (hp : P e) : P (onClosePosition u e r oid) := by
  fun_cases Eng.onClosePosition u e r oid
  · exact hp
  · exact h.detectModifications _ (h.runHook _ _ _ (h.executeCancel _ (h.broadcast _ hp)))

theorem onIncreasedPosition {e : Engine M} (r oid : Nat) (hp : P e) : P (onIncreasedPosition u e r oid) := by
  fun_cases Eng.onIncreasedPosition u e r oid
  · exact hp
  · exact h.detectModifications _ (h.runHook _ _ _ (h.broadcast _ (h.setStrat _ _ hp)))

theorem onReducedPosition {e : Engine M} (r oid : Nat) (hp : P e) : P (onReducedPosition u e r oid) := by
  fun_cases Eng.onReducedPosition u e r oid
  · exact hp
  · exact h.detectModifications _ (h.runHook _ _ _ (h.broadcast _ (h.setStrat _ _ hp)))

theorem onUpdatedPosition {e : Engine M} (r oid : Nat) (hp : P e) : P (onUpdatedPosition u e r oid) := by
  fun_cases Eng.onUpdatedPosition u e r oid
  · exact hp
  · exact h.onOpenPosition u _ _ hp
  · exact h.onClosePosition u _ _ hp
  · exact h.onIncreasedPosition u _ _ hp
  · exact h.onReducedPosition u _ _ hp

theorem afterFill {e : Engine M} (sym n id : Nat) (hp : P e) : P (afterFill u e sym n id) := by
  fun_cases Eng.afterFill u e sym n id
  · exact hp
  · exact h.onUpdatedPosition u _ _ (ite_keeps (h.setStrat _ _ hp) hp)

theorem executeOrder {e : Engine M} (id : Nat) (hp : P e) : P (executeOrder u e id) := by
  have h4 := h.afterFill u (orderOf e id).sym e.w.trades.length id
    (h.logE (.fill id e.time (orderOf e id).price (orderOf e id).qty) (h.world hp (execute_ext e.w id)))
  fun_cases Eng.executeOrder u e id
  · exact hp
  · exact hp
  · exact h4
  · exact h.logE _ h4

/-- a fill of the matching loop after the partial candle is published: mark the price, stamp the time, execute -/
theorem fill {e : Engine M} (sym : Nat) (p : Rat) (st : Bool) (t : Int) (id : Nat) (hp : P e) :
    P (Eng.executeOrder u (if st then { Eng.setCurrentPrice e sym p with time := t } else Eng.setCurrentPrice e sym p) id) :=
  h.executeOrder u _ (ite_keeps (h.of_eq (h.setCurrentPrice _ _ hp) rfl rfl rfl) (h.setCurrentPrice _ _ hp))

end strategy
section run
variable [Inhabited M] (u : UserStrategy M)

theorem executePendingMarketOrders_go (fuel : Nat) {e : Engine M} (i : Nat) (hp : P e) : P (executePendingMarketOrders.go u fuel e i) := by
  fun_induction executePendingMarketOrders.go u fuel e i
  · exact h.fail _ hp
  · exact hp
  · exact h.of_eq hp rfl rfl rfl
  · rename_i ih; exact ih (h.executeOrder u _ hp)

theorem executePendingMarketOrders (fuel : Nat) {e : Engine M} (hp : P e) : P (executePendingMarketOrders u fuel e) := by
  fun_cases Eng.executePendingMarketOrders u fuel e
  · exact hp
  · exact h.executePendingMarketOrders_go u _ _ hp

theorem executeEntry {e : Engine M} (r : Nat) (long spot : Bool) (hp : P e) : P (executeEntry u e r long spot) := by
  fun_cases Eng.executeEntry u e r long spot
  · exact hp
  · exact h.fail _ (h.runHook _ _ _ hp)
  · exact h.fail _ (h.runHook _ _ _ hp)
  · exact h.entryExits _ _ _ _ _ (h.setStrat _ _ (h.runHook _ _ _ hp))
  · exact h.entryExits _ _ _ _ _ (h.entryExits _ _ _ _ _ (h.setStrat _ _ (h.runHook _ _ _ hp)))
  · exact h.submitEntries _ _ _ (h.entryExits _ _ _ _ _ (h.entryExits _ _ _ _ _ (h.setStrat _ _ (h.runHook _ _ _ hp))))

theorem checkCancel {e : Engine M} (r : Nat) (hp : P e) : P (checkCancel u e r) := by
  fun_cases Eng.checkCancel u e r
  · exact h.executeCancel _ (h.logE _ hp)
  · exact h.logE _ hp
  · exact hp

theorem checkUpdate {e : Engine M} (r : Nat) (hp : P e) : P (checkUpdate u e r) := by
  fun_cases Eng.checkUpdate u e r
  · exact h.detectModifications _ (h.runHook _ _ _ hp)
  · exact hp

theorem checkEntry {e : Engine M} (r : Nat) (spot : Bool) (hp : P e) : P (checkEntry u e r spot) := by
  have h6 : ∀ ev ev', P (Eng.logE (Eng.logE (Eng.resetStrategy e r) ev) ev') :=
    fun _ _ => h.logE _ (h.logE _ (h.resetStrategy _ hp))
  fun_cases Eng.checkEntry u e r spot
  · exact h.fail _ (h.logE _ (h.resetStrategy _ hp))
  · exact h.fail _ (h6 _ _)
  · exact h.executeEntry u _ _ _ (h6 _ _)
  · exact h.executeEntry u _ _ _ (h6 _ _)
  · exact h6 _ _

theorem check (fuel : Nat) {e : Engine M} (r : Nat) (hp : P e) : P (check u fuel e r) := by
  have h3 := h.executePendingMarketOrders u fuel (h.checkUpdate u r (h.checkCancel u r hp))
  fun_cases Eng.check u fuel e r
  · exact hp
  · exact h3
  · exact h.checkEntry u _ _ h3
  · exact h3

theorem beforeStep {e : Engine M} (r : Nat) (hp : P e) : P (beforeStep u e r) := h.of_eq hp rfl rfl rfl

theorem afterStep {e : Engine M} (r : Nat) (hp : P e) : P (afterStep u e r) := h.of_eq hp rfl rfl rfl

theorem executeStrategy (fuel : Nat) {e : Engine M} (r : Nat) (hp : P e) : P (executeStrategy u fuel e r) := by
  have h2 := h.check u fuel r (h.beforeStep u r hp)
  fun_cases Eng.executeStrategy u fuel e r
  · exact hp
  · exact h2
  · exact h.afterStep u r h2

theorem terminate (fuel : Nat) {e : Engine M} (r : Nat) (hp : P e) : P (terminate u fuel e r) := by
  have h3 := h.executePendingMarketOrders u fuel (h.detectModifications r (h.runHook r "before_terminate" (u.beforeTerminate e r) hp))
  fun_cases Eng.terminate u fuel e r
  · exact hp
  · exact h3
  · exact h.brokerSubmit _ _ _ (ite_keeps (foldl_keeps (fun _ _ => h.cancelOrder _) _ (h.of_eq h3 rfl rfl rfl)) h3)
  · exact h.executeCancel _ h3
  · exact h3

theorem routesStep (fuel : Nat) {e : Engine M} (i b : Nat) (hp : P e) : P (routesStep u fuel e i b) := by
  unfold Eng.routesStep
  refine ite_keeps (h.saveDaily ?_) ?_
  all_goals exact h.executePendingMarketOrders u _ (foldl_keeps (fun _ _ hx => ite_keeps hx
    (h.world (ite_keeps (h.executeStrategy u _ _ hx) hx) (updateActive_ext _ _))) _ hp)

/-- the liquidation check, for a predicate that survives the publication of the last stored minute (the one write to the
    candle store on this path) -/
theorem checkLiquidation {e : Engine M} (sym : Nat) (c : Candle)
    (hpub : ∀ (e2 : Engine M) last, P e2 → (storeOf e2 sym).short.getLast? = some last → P (updatePartialCandle e2 sym last))
    (hp : P e) : P (checkLiquidation u e sym c) := by
  fun_cases Eng.checkLiquidation u e sym c
  · exact hp
  · exact hp
  · exact hp
  · rename_i hs; exact h.fail _ (h.world hp (submit_err_ext hs))
  · rename_i hs _ _ _ _ _ hlast
    exact h.executeOrder u _ (hpub _ _ (h.logE _ (h.logE _ (h.step hp (submit_ok_ext hs) rfl rfl))) hlast)
  · rename_i hs _ _ _ _ _
    exact h.fail _ (h.logE _ (h.logE _ (h.step hp (submit_ok_ext hs) rfl rfl)))
  · exact hp
  · exact hp

theorem finishRun (fuel : Nat) {e : Engine M} (hp : P e) : P (finishRun u fuel e) := by
  have h1 := foldl_keeps (fun _ r hx => h.executePendingMarketOrders u fuel (h.terminate u fuel r hx)) (List.range e.cfg.routes.length) hp
  exact ite_keeps h1 (h.saveDaily h1)

end run
end Closed

namespace ClosedAt
variable {P : Engine M → Prop} {sym : Nat} (h : ClosedAt sym P)
include h

theorem addCandle {e : Engine M} (tf : Nat) (c : Candle) (hp : P e) : P (addCandle e sym tf c) := h.store _ hp

theorem addGenerated {e : Engine M} (tf : Nat) (g : Except Err Candle) (hp : P e) :
    P (match g with | .ok g => Eng.addCandle e sym tf g | .error k => Eng.fail e k) := by
  cases g
  · exact h.fail _ hp
  · exact h.addCandle _ _ hp

theorem updatePartialCandle {e : Engine M} (c : Candle) (hp : P e) : P (updatePartialCandle e sym c) :=
  foldl_keeps (fun _ _ hx => h.addGenerated _ _ hx) _ (h.addCandle 1 c hp)

variable [Inhabited M] (u : UserStrategy M)

theorem matchLoop (fuel : Nat) {e : Engine M} (cur : Candle) (cands : List Nat) (resel : Engine M → Candle → List Nat)
    (st : Bool) (hp : P e) : P (matchLoop u fuel e sym cur cands resel st).1 := by
  fun_induction Eng.matchLoop u fuel e sym cur cands resel st
  · exact h.fail _ hp
  · exact hp
  · exact hp
  · exact h.fail _ hp
  · rename_i ih; exact ih (h.fill u _ _ _ _ _ (h.updatePartialCandle _ hp))

theorem checkLiquidation {e : Engine M} (c : Candle) (hp : P e) : P (checkLiquidation u e sym c) :=
  h.toClosed.checkLiquidation u sym c (fun _ _ hp _ => h.updatePartialCandle _ hp) hp

/-- `fun_cases` on a caller leaves `hr : matchLoop … = (e1, _)` and a goal about `e1` -/
theorem matchLoop_of_eq {fuel : Nat} {e : Engine M} {cur : Candle} {cands : List Nat} {resel : Engine M → Candle → List Nat}
    {st : Bool} {r : Engine M × Candle} (hr : Eng.matchLoop u fuel e sym cur cands resel st = r) (hp : P e) : P r.1 :=
  hr ▸ h.matchLoop u fuel cur cands resel st hp

theorem simulateMinute (fuel : Nat) {e : Engine M} (real : Candle) (hp : P e) : P (simulateMinute u fuel e sym real) := by
  fun_cases Eng.simulateMinute u fuel e sym real
  · exact hp
  · rename_i hr _; exact h.matchLoop_of_eq u hr hp
  · rename_i hr _ _ _
    exact h.checkLiquidation u _ (h.setCurrentPrice _ _ (h.addCandle _ _ (h.matchLoop_of_eq u hr hp)))

theorem perMinute (fuel : Nat) (real : Candle) (rest : List Candle) (prev : Option Candle) {e : Engine M} (cands : List Nat)
    (hp : P e) : P (simulateChunk.perMinute u fuel sym real rest prev e cands) := by
  fun_induction simulateChunk.perMinute u fuel sym real rest prev e cands
  · exact hp
  · exact hp
  · rename_i hr _; exact h.matchLoop_of_eq u hr hp
  · rename_i hr _ _ _ _ ih
    exact ih (h.setCurrentPrice _ _ (h.addCandle _ _ (h.matchLoop_of_eq u hr hp)))

theorem simulateChunk (fuel : Nat) {e : Engine M} (cs : List Candle) (hp : P e) : P (simulateChunk u fuel e sym cs) := by
  have h1 : ∀ (c : Prop) [Decidable c] real cands, P (if c then simulateChunk.perMinute u fuel sym real cs none e cands else e) :=
    fun _ _ _ _ => ite_keeps (h.perMinute u _ _ _ _ _ hp) hp
  have h3 : ∀ e1, P e1 → ∀ short' t real, P (Eng.checkLiquidation u
      { e1 with stores := upd e1.stores sym (fun s => { s with short := short' }), time := t } sym real) :=
    fun e1 h1 short' t real => h.checkLiquidation u _ (h.of_eq (h.store _ h1) rfl rfl rfl)
  fun_cases Eng.simulateChunk u fuel e sym cs
  · exact hp
  · exact h.fail _ hp
  · exact h1 _ _ _
  · exact h.fail _ (h1 _ _ _)
  · exact h.setCurrentPrice _ _ (h3 _ (h1 _ _ _) _ _ _)
  · exact h3 _ (h1 _ _ _) _ _ _

theorem symStep (fuel i : Nat) (acc : Engine M × List (List Candle)) (hp : P acc.1) : P (symStep u fuel i acc sym).1 := by
  fun_cases Eng.symStep u fuel i acc sym
  · exact hp
  · exact h.fail _ hp
  · exact foldl_keeps (fun _ _ hx => ite_keeps (h.addGenerated _ _ hx) hx) _
      (h.simulateMinute u _ _ (h.addCandle _ _ hp))

theorem symSkip (fuel i step : Nat) (acc : Engine M × List (List Candle)) (hp : P acc.1) :
    P (symSkip u fuel i step acc sym).1 := by
  fun_cases Eng.symSkip u fuel i step acc sym
  · exact hp
  · exact foldl_keeps (fun _ _ hx => ite_keeps (h.addGenerated _ _ hx) hx) _
      (h.simulateChunk u _ _ hp)

end ClosedAt

structure ClosedAll (P : Engine M → Prop) : Prop extends Closed P where
  store : ∀ (sym : Nat) {e : Engine M} (f : SymStore → SymStore), P e → P { e with stores := upd e.stores sym f }

/-- nothing writes the configuration -/
theorem cfg_closed (c : Cfg) : ClosedAll (fun e : Engine M => e.cfg = c) where
  step hp _ _ hc := hc.trans hp
  store _ _ _ hp := hp

/-- no function of the strategy layer writes the candle stores -/
theorem stores_closed (s : List SymStore) : Closed (fun e : Engine M => e.stores = s) where
  step hp _ hs _ := hs.trans hp

namespace ClosedAll
variable {P : Engine M → Prop} (h : ClosedAll P)
include h

theorem closedAt (sym : Nat) : ClosedAt sym P := ⟨h.toClosed, h.store sym⟩

variable [Inhabited M] (u : UserStrategy M)

theorem stepAt (fuel : Nat) (inputs : List (List Candle)) {e : Engine M} (i : Nat) (hp : P e) :
    P (stepAt u fuel inputs e i).1 := by
  fun_cases Eng.stepAt u fuel inputs e i
  · exact hp
  · exact h.routesStep u _ _ _ (foldl_keeps_fst (fun _ s => (h.closedAt s).symStep u _ _ _) _ (h.of_eq hp rfl rfl rfl))

theorem skipAt (fuel : Nat) (inputs : List (List Candle)) {e : Engine M} (i step : Nat) (hp : P e) :
    P (skipAt u fuel inputs e i step).1 := by
  fun_cases Eng.skipAt u fuel inputs e i step
  · exact hp
  · exact h.routesStep u _ _ _ (foldl_keeps_fst (fun _ s => (h.closedAt s).symSkip u _ _ _ _) _ hp)

theorem runStepN (fuel : Nat) (inputs : List (List Candle)) {e : Engine M} (n : Nat) (hp : P e) :
    P (runStepN u fuel inputs e n).1 :=
  foldl_keeps_fst (fun acc i => h.stepAt u fuel acc.2 i) _ (h.of_eq hp rfl rfl rfl)

theorem runSkipN (fuel : Nat) (inputs : List (List Candle)) {e : Engine M} (step k : Nat) (hp : P e) :
    P (runSkipN u fuel inputs e step k).1 :=
  foldl_keeps_fst (fun acc _ => h.skipAt u fuel acc.2 _ _) _ (h.of_eq hp rfl rfl rfl)

theorem runStep (fuel : Nat) (inputs : List (List Candle)) {e : Engine M} (hp : P e) : P (runStep u fuel inputs e) :=
  h.finishRun u _ (h.runStepN u fuel inputs _ hp)

theorem runSkip (fuel : Nat) (inputs : List (List Candle)) {e : Engine M} (hp : P e) : P (runSkip u fuel inputs e) := by
  fun_cases Eng.runSkip u fuel inputs e
  · exact h.fail _ (h.of_eq hp rfl rfl rfl)
  · exact h.finishRun u _ (h.runSkipN u fuel inputs _ _ hp)

end ClosedAll
end Jesse.Eng

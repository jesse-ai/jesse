/-
  Proofs/Lemmas/DynArray.lean — for C18 (core Lean only): the invariant `Inv` of the array model (Jesse/DynArray.lean)
  and what each piece of a method (index resolution, slice bounds, growth, write, drop step) does to the first `n` rows
  of the backing array, `n` the logical length as a natural number.
-/
import Jesse.DynArray
import Spec.ListArray
import Proofs.Lemmas.Py

namespace Jesse.DynArray
open Jesse

/-- the class invariant. `cap` with `bpos` keeps the backing array non-empty, which the write at row 0 needs: `append`
    and `append_multiple` skip the growth check when the new index is 0 (`self.index != 0 and …`). `delete` re-pads when
    the capacity has fallen to one bucket, which keeps `cap`. -/
structure Inv (a : DynArray) : Prop where
  idx : -1 ≤ a.index
  fits : (a.index + 1).toNat ≤ a.array.length
  bpos : 0 < a.bucket
  cap : a.bucket ≤ a.array.length

/-- the logical length `len(a)` as a natural number -/
def n (a : DynArray) : Nat := (a.index + 1).toNat

theorem n_cast (a : DynArray) (h : Inv a) : ((a.n : Nat) : Int) = a.index + 1 := by
  unfold n; have := h.idx; omega

theorem abs_length (a : DynArray) (h : Inv a) : a.abs.length = a.n :=
  (List.length_take ..).trans (Nat.min_eq_left h.fits)

theorem zeros_length (m w : Nat) : (zeros m w).length = m := List.length_replicate

/-- the common exit of the methods that move the index (`delete`, `append_multiple`, and `append` through it) -/
theorem inv_update (a : DynArray) (h : Inv a) (i : Int) (m : Nat) (arr : List Row) (hi : i = (m : Int) - 1)
    (hm : m ≤ arr.length) (hcap : a.bucket ≤ arr.length) :
    ({ a with index := i, array := arr } : DynArray).abs = arr.take m ∧
      Inv { a with index := i, array := arr } := by
  subst hi
  have e : ((m : Int) - 1 + 1).toNat = m := by rw [Int.sub_add_cancel, Int.toNat_natCast]
  exact ⟨congrArg (arr.take ·) e,
    ⟨show -1 ≤ (m : Int) - 1 by omega, Nat.le_trans (Nat.le_of_eq e) hm, h.bpos, hcap⟩⟩

theorem take_eraseIdx_lt {α} (l : List α) (m k : Nat) (hk : k < m) (hm : m ≤ l.length) :
    (l.eraseIdx k).take (m - 1) = (l.take m).eraseIdx k := by
  rw [List.eraseIdx_eq_take_drop_succ, List.eraseIdx_eq_take_drop_succ, List.take_take, List.drop_take,
    Nat.min_eq_left (Nat.le_of_lt hk), List.take_append, List.length_take, Nat.min_eq_left (by omega),
    List.take_of_length_le (by rw [List.length_take]; omega), show m - 1 - k = m - (k + 1) by omega]

/-- re-padding after `np.delete`: a bucket of rows `zs` is added when the capacity has fallen to `b` -/
theorem repad_spec {α} (xs zs : List α) (b m : Nat) (hm : m ≤ xs.length) (hz : zs.length = b) :
    (if xs.length ≤ b then xs ++ zs else xs).take m = xs.take m ∧
      m ≤ (if xs.length ≤ b then xs ++ zs else xs).length ∧ b ≤ (if xs.length ≤ b then xs ++ zs else xs).length := by
  split
  · exact ⟨List.take_append_of_le_length hm, by rw [List.length_append]; omega, by rw [List.length_append]; omega⟩
  · exact ⟨rfl, hm, by omega⟩

theorem resolve_some (a : DynArray) (h : Inv a) (i : Int) (k : Nat) (hk : Py.normIdx a.n i = some k) :
    a.resolve i = (k : Int) ∧ k < a.n := by
  have hc := n_cast a h
  rw [Py.normIdx_eq_some] at hk
  unfold resolve
  split <;> omega

theorem resolve_none (a : DynArray) (h : Inv a) (i : Int) (hk : Py.normIdx a.n i = none) :
    a.resolve i > a.index ∨ a.resolve i < 0 := by
  have hc := n_cast a h
  rw [Py.normIdx_eq_none] at hk
  unfold resolve
  split <;> omega

theorem normIdx_array (a : DynArray) (h : Inv a) (k : Nat) (hk : k < a.n) :
    Py.normIdx a.array.length (k : Int) = some k :=
  Py.normIdx_natCast (Nat.lt_of_lt_of_le hk h.fits)

theorem getIdx_array (a : DynArray) (h : Inv a) (k : Nat) (hk : k < a.n) :
    Py.getIdx a.array (k : Int) = a.abs[k]? := by
  rw [Py.getIdx, normIdx_array a h k hk]
  exact (List.getElem?_take_of_lt (l := a.array) hk).symm

theorem getSlice_eq (a : DynArray) (s e : Option Int) :
    a.getSlice s e = Py.slice a.array (some (Py.wrap (a.index + 1) (s.getD 0)))
      (some (min (Py.wrap (a.index + 1) (e.getD (a.index + 1))) (a.index + 1))) := rfl

/-- the stop bound `__setitem__(slice)` hands to NumPy (`start` the resolved start, `k` the number of rows, `len` the
    logical length) -/
def setStop (e : Option Int) (start : Int) (k : Nat) (len : Int) : Int :=
  match e with
  | none => start + k
  | some x => min (Py.wrap len x) len

theorem setSlice_eq (a : DynArray) (s e : Option Int) (items : List Row) :
    a.setSlice s e items =
      match npAssign a.array (Py.wrap (a.index + 1) (s.getD 0))
        (setStop e (Py.wrap (a.index + 1) (s.getD 0)) items.length (a.index + 1)) items with
      | some arr => .ok { a with array := arr }
      | none => .error .ValueError := by
  cases e <;> rfl

/-- where an assignment of as many rows as the list slice `l[s:e]` holds (`k`, with `l` of length `n` and the start
    resolved to `p`) lands on a backing array of length `L ≥ n`: it spans `k` rows there too, and unless it is empty it
    starts where the list's does and ends inside the first `n` rows -/
theorem setStop_spec (n L p k : Nat) (e : Option Int) (hn : n ≤ L) (hk : Py.stopIdx n e - min p n = k) :
    ∃ t : Nat, setStop e p k n = t ∧ min t L - min p L = k ∧ min p L + k ≤ L ∧
      (k = 0 ∨ (min p L = min p n ∧ min p n + k ≤ n)) := by
  have hB := Py.stopIdx_le n e
  rcases Nat.le_total p n with hp | hp
  · -- the start lies inside the list: list and backing array both see it at `p`
    rw [Nat.min_eq_left hp] at hk ⊢
    rw [Nat.min_eq_left (Nat.le_trans hp hn)]
    cases e with
    | none =>
      have hpk : p + k = n := hk ▸ Nat.add_sub_cancel' hp
      exact ⟨p + k, (Int.natCast_add ..).symm, by rw [hpk, Nat.min_eq_left hn]; exact hk, hpk ▸ hn,
        Or.inr ⟨rfl, Nat.le_of_eq hpk⟩⟩
    | some x =>
      have hpk : p + k ≤ n := by omega
      exact ⟨_, Py.stopIdx_wrap n (some x), by rw [Nat.min_eq_left (Nat.le_trans hB hn)]; exact hk,
        Nat.le_trans hpk hn, Or.inr ⟨rfl, hpk⟩⟩
  · -- the start lies behind the list: the slice is empty, on the backing array as well
    rw [Nat.min_eq_right hp] at hk ⊢
    obtain rfl : k = 0 := hk ▸ Nat.sub_eq_zero_of_le hB
    have hmp : n ≤ min p L := Nat.le_min.mpr ⟨hp, hn⟩
    cases e with
    | none => exact ⟨p + 0, (Int.natCast_add ..).symm, Nat.sub_self _, Nat.min_le_right .., Or.inl rfl⟩
    | some x =>
      exact ⟨_, Py.stopIdx_wrap n (some x),
        Nat.sub_eq_zero_of_le (Nat.le_trans (Nat.min_le_left ..) (Nat.le_trans hB hmp)), Nat.min_le_right ..,
        Or.inl rfl⟩

theorem npAssign_natCast (xs : List Row) (p t : Nat) (items : List Row)
    (h : min t xs.length - min p xs.length = items.length) :
    npAssign xs (p : Int) (t : Int) items = some (Py.splice xs (min p xs.length) items) := by
  have hs : Py.startIdx xs.length (some (p : Int)) = min p xs.length := Py.clampIdx_natCast ..
  have ht : Py.stopIdx xs.length (some (t : Int)) = min t xs.length := Py.clampIdx_natCast ..
  rw [npAssign, Py.length_slice, hs, ht, h, if_pos rfl, Py.setSlice_eq _ _ _ _ (by rw [hs, ht, h]), hs]

theorem npAssign_fit (xs : List Row) (m : Nat) (items : List Row) (h : m + items.length ≤ xs.length) :
    npAssign xs (m : Int) ((m + items.length : Nat) : Int) items = some (Py.splice xs m items) := by
  have hm : m ≤ xs.length := Nat.le_trans (Nat.le_add_right ..) h
  rw [npAssign_natCast xs _ _ items (by rw [Nat.min_eq_left h, Nat.min_eq_left hm, Nat.add_sub_cancel_left]),
    Nat.min_eq_left hm]

theorem grow_spec (a : DynArray) (h : Inv a) (k extra : Nat) (hke : k ≤ extra) :
    a.n + k ≤ (a.grow (a.index + k) extra).length ∧ a.array.length ≤ (a.grow (a.index + k) extra).length ∧
      (a.grow (a.index + k) extra).take a.n = a.abs := by
  have hc := n_cast a h
  have hf : a.n ≤ a.array.length := h.fits
  have hcap := h.cap
  have hb := h.bpos
  unfold grow
  split
  · exact ⟨by rw [List.length_append, zeros_length]; omega, by rw [List.length_append]; omega,
      List.take_append_of_le_length hf⟩
  · exact ⟨by omega, Nat.le_refl _, rfl⟩

theorem writeRow_ok (a : DynArray) (k : Nat) (arr : List Row) (r : Row) (hk : k < arr.length) :
    a.writeRow (k : Int) arr r = .ok { a with index := (k : Int), array := arr.set k r } := by
  rw [writeRow, Py.normIdx_natCast hk]

/-- the condition of `dropStep` at new index `m - 1` ↔ that of `Spec.listAppendAll` at new length `m` -/
theorem dropCond_iff (m d : Nat) :
    ((m : Int) - 1 ≠ 0 ∧ ((m : Int) - 1 + 1) % (d : Int) = 0) ↔ (m ≠ 1 ∧ m % d = 0) := by
  rw [Int.sub_add_cancel, ← Int.natCast_emod, Int.natCast_eq_zero]
  constructor <;> rintro ⟨h1, h2⟩ <;> exact ⟨by omega, h2⟩

theorem dropStep_spec (a : DynArray) (hd : ∀ d, a.dropAt = some d → 0 < d) (m : Nat) (arr : List Row)
    (hm : m ≤ arr.length) (hpos : a.dropAt ≠ none → 0 < m) (l rs : List Row) (hl : arr.take m = l ++ rs) :
    ∃ (m' : Nat) (arr' : List Row), a.dropStep ((m : Int) - 1) arr = ((m' : Int) - 1, arr') ∧ m' ≤ m ∧
      arr'.length = arr.length ∧ arr'.take m' = Spec.listAppendAll a.dropAt l rs := by
  have hlen : (l ++ rs).length = m := by rw [← hl, List.length_take, Nat.min_eq_left hm]
  unfold dropStep Spec.listAppendAll
  cases hdrop : a.dropAt with
  | none => exact ⟨m, arr, rfl, Nat.le_refl m, rfl, hl⟩
  | some d =>
    simp only [dropCond_iff, hlen]
    split
    · rename_i hf
      have hdm : d ≤ m := Nat.le_of_dvd (hpos (by rw [hdrop]; simp)) (Nat.dvd_of_mod_eq_zero hf.2)
      have hk : d / 2 < m := Nat.lt_of_lt_of_le (Nat.div_lt_self (hd d hdrop) Nat.one_lt_two) hdm
      obtain ⟨h1, h2⟩ := Py.shiftLeft_spec arr (d / 2) (zeroRow a.width) (Nat.lt_of_lt_of_le hk hm)
      refine ⟨m - d / 2, _, by rw [Int.natCast_sub (Nat.le_of_lt hk), Int.sub_sub, Int.sub_sub, Int.add_comm], Nat.sub_le .., h1, ?_⟩
      rw [h2 _ (by rw [Nat.sub_add_cancel (Nat.le_of_lt hk)]; exact hm), ← hl, List.drop_take]
    · exact ⟨m, arr, rfl, Nat.le_refl m, rfl, hl⟩

/-- `append` runs the drop step and then writes at the (possibly moved) last position, `append_multiple` writes and
    then runs the drop step: the same array -/
theorem dropStep_set (a : DynArray) (i : Nat) (arr : List Row) (r : Row) (hi : i < arr.length) :
    ∃ j : Nat, (a.dropStep i arr).1 = j ∧ j < (a.dropStep i arr).2.length ∧
      a.dropStep i (arr.set i r) = ((j : Int), (a.dropStep i arr).2.set j r) := by
  unfold dropStep
  cases a.dropAt with
  | none => exact ⟨i, rfl, hi, rfl⟩
  | some d =>
    dsimp only
    split
    · rename_i hf
      have hf' := (dropCond_iff (i + 1) d).mp (by rwa [Int.natCast_add, Int.natCast_one, Int.add_sub_cancel])
      have hle : d ≤ i + 1 := Nat.le_of_dvd (Nat.succ_pos i) (Nat.dvd_of_mod_eq_zero hf'.2)
      have hk : d / 2 ≤ i := by omega
      refine ⟨i - d / 2, (Int.natCast_sub hk).symm, ?_, ?_⟩
      · dsimp only
        rw [(Py.shiftLeft_spec arr (d / 2) _ (Nat.lt_of_le_of_lt hk hi)).1]
        exact Nat.lt_of_le_of_lt (Nat.sub_le ..) hi
      · dsimp only; rw [Py.shiftLeft_set _ _ _ _ _ hk hi, Int.natCast_sub hk]
    · exact ⟨i, rfl, hi, rfl⟩

/-- under the invariant the two grow alike (`max 1 bucket = bucket`, and the grown array has room for the row), and
    the write commutes with the drop step (`dropStep_set`) -/
theorem append_eq_appendMultiple (a : DynArray) (h : Inv a) (r : Row) : a.append r = a.appendMultiple [r] := by
  have hc := n_cast a h
  have hfit := (grow_spec a h 1 a.bucket h.bpos).1
  have e1 : a.index + 1 - 1 + 1 = ((a.n : Nat) : Int) := by omega
  have e2 : a.index + 1 + 1 = ((a.n + 1 : Nat) : Int) := by omega
  unfold append appendMultiple
  rw [Int.natCast_one, ← hc] at hfit
  rw [List.length_singleton, Int.natCast_one, Nat.max_eq_right h.bpos, e1, e2, ← hc]
  generalize a.grow (a.n : Int) a.bucket = G at *
  obtain ⟨j, hj, hjlt, hset⟩ := dropStep_set a a.n G r hfit
  rw [show npAssign G a.n (a.n + 1 : Nat) [r] = _ from npAssign_fit G a.n [r] hfit, Py.splice_singleton _ _ _ hfit]
  simp only [hset]
  rw [hj, writeRow_ok a j _ r hjlt]

theorem append_dropAt (a a' : DynArray) (r : Row) (h : a.append r = .ok a') : a'.dropAt = a.dropAt := by
  unfold append at h
  revert h; fun_cases writeRow a _ _ r <;> intro h <;> cases h <;> rfl

theorem appendMultiple_dropAt (a a' : DynArray) (rs : List Row) (h : a.appendMultiple rs = .ok a') :
    a'.dropAt = a.dropAt := by
  revert h; fun_cases appendMultiple a rs <;> intro h <;> cases h <;> rfl

theorem setItem_dropAt (a a' : DynArray) (i : Int) (r : Row) (h : a.setItem i r = .ok a') :
    a'.dropAt = a.dropAt := by
  revert h; fun_cases setItem a i r <;> intro h <;> cases h <;> rfl

theorem setSlice_dropAt (a a' : DynArray) (s e : Option Int) (rs : List Row) (h : a.setSlice s e rs = .ok a') :
    a'.dropAt = a.dropAt := by
  revert h; fun_cases setSlice a s e rs <;> intro h <;> cases h <;> rfl

theorem delete_dropAt (a a' : DynArray) (i : Int) (h : a.delete i = .ok a') : a'.dropAt = a.dropAt := by
  revert h; fun_cases delete a i <;> intro h <;> cases h <;> rfl

end Jesse.DynArray

/-
  Proofs/Lemmas/Pick.lean — two shapes of generated code as facts about lists: the first match in a
  priority list (an `if x₁ ∈ s then x₁ else if x₂ ∈ s …` chain) and the running maximum / minimum
  (an accumulation with an operation that picks one of its arguments; `maxR` and `minR` of
  Jesse/Basic.lean are such operations).  Core Lean only.
-/
import Jesse.Basic

namespace Jesse

/-- `r` is `≤` for a running maximum, `≥` for a running minimum; `F` is the accumulation itself, so
    that a model function written as its own recursion needs no detour through `List.foldl`. -/
theorem pick_spec {α : Type} {r : α → α → Prop} (refl : ∀ a, r a a)
    (trans : ∀ {a b c}, r a b → r b c → r a c) {op : α → α → α}
    (hop : ∀ a b, (op a b = a ∨ op a b = b) ∧ r a (op a b) ∧ r b (op a b))
    {F : α → List α → α} (nil : ∀ m, F m [] = m) (cons : ∀ m x xs, F m (x :: xs) = F (op m x) xs) :
    ∀ (l : List α) (m : α), F m l ∈ m :: l ∧ ∀ x ∈ m :: l, r x (F m l)
  | [], m => by
    rw [nil]
    exact ⟨List.mem_singleton.mpr rfl, fun x hx => List.mem_singleton.mp hx ▸ refl m⟩
  | y :: ys, m => by
    obtain ⟨hm, hb⟩ := pick_spec refl trans hop nil cons ys (op m y)
    obtain ⟨hs, h1, h2⟩ := hop m y
    have hres := hb _ (.head _)
    rw [cons]
    refine ⟨?_, List.forall_mem_cons.mpr ⟨trans h1 hres,
      List.forall_mem_cons.mpr ⟨trans h2 hres, fun x hx => hb x (.tail _ hx)⟩⟩⟩
    rcases List.mem_cons.mp hm with h | h
    · rw [h]
      rcases hs with hs | hs <;> rw [hs]
      · exact .head _
      · exact .tail _ (.head _)
    · exact .tail _ (.tail _ h)

theorem rel_of_find?_eq_some {α : Type} {R : α → α → Prop} {p : α → Bool} {m : α} :
    ∀ {l : List α}, l.Pairwise R → l.find? p = some m → ∀ t ∈ l, p t → t = m ∨ R m t
  | a :: l, hp, hf, t, ht, hpt => by
    rw [List.pairwise_cons] at hp
    rw [List.find?_cons] at hf
    split at hf
    · cases hf
      exact (List.mem_cons.mp ht).imp_right (hp.1 t)
    · rcases List.mem_cons.mp ht with rfl | ht
      · simp_all
      · exact rel_of_find?_eq_some hp.2 hf t ht hpt

theorem find?_cons_getD {α : Type} (p : α → Prop) [DecidablePred p] (d a : α) (l : List α) :
    ((a :: l).find? (p ·)).getD d = if p a then a else (l.find? (p ·)).getD d := by
  rw [List.find?_cons]
  by_cases h : p a <;> simp [h]

theorem maxR_pick (a b : Rat) : (maxR a b = a ∨ maxR a b = b) ∧ a ≤ maxR a b ∧ b ≤ maxR a b := by
  unfold maxR
  split
  · exact ⟨.inr rfl, Rat.le_of_lt ‹_›, Rat.le_refl⟩
  · exact ⟨.inl rfl, Rat.le_refl, Rat.not_lt.mp ‹_›⟩

theorem minR_pick (a b : Rat) : (minR a b = a ∨ minR a b = b) ∧ minR a b ≤ a ∧ minR a b ≤ b := by
  unfold minR
  split
  · exact ⟨.inr rfl, Rat.le_of_lt ‹_›, Rat.le_refl⟩
  · exact ⟨.inl rfl, Rat.le_refl, Rat.not_lt.mp ‹_›⟩

end Jesse

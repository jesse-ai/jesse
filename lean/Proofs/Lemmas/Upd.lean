/-
  Proofs/Lemmas/Upd.lean — `Acc.upd` is `List.modify` and `Acc.getD` is `List.getD … default`; the few facts
  about updating one slot of a per-symbol list that every proof over the accounts and engine models uses.
-/
import Jesse.Accounts

namespace Jesse.Acc

variable {α : Type _}

theorem upd_eq_modify (l : List α) (i : Nat) (f : α → α) : upd l i f = l.modify i f := by
  induction l generalizing i with
  | nil => cases i <;> rfl
  | cons x xs ih =>
    cases i with
    | zero => rfl
    | succ k => rw [upd, List.modify_succ_cons, ih]

theorem getD_eq_listGetD [Inhabited α] (l : List α) (i : Nat) : getD l i = l.getD i default := by
  induction l generalizing i with
  | nil => rfl
  | cons x xs ih =>
    cases i with
    | zero => rfl
    | succ k => rw [getD, List.getD_cons_succ, ih]

@[simp] theorem length_upd (l : List α) (i : Nat) (f : α → α) : (upd l i f).length = l.length := by
  rw [upd_eq_modify, List.length_modify]

theorem getElem?_upd (l : List α) (i j : Nat) (f : α → α) :
    (upd l i f)[j]? = if i = j then (l[j]?).map f else l[j]? := by
  rw [upd_eq_modify, List.getElem?_modify]
  split
  · rfl
  · exact Option.map_id'

theorem upd_id (l : List α) (i : Nat) : upd l i id = l := by
  rw [upd_eq_modify]; exact List.modify_id i l

theorem upd_congr (l : List α) (i : Nat) (f g : α → α) (h : ∀ x, l[i]? = some x → f x = g x) :
    upd l i f = upd l i g := by
  apply List.ext_getElem?
  intro j
  rw [getElem?_upd, getElem?_upd]
  split
  · rename_i hij
    subst hij
    cases hx : l[i]? with
    | none => rfl
    | some x => exact congrArg some (h x hx)
  · rfl

theorem upd_upd (l : List α) (i : Nat) (f g : α → α) : upd (upd l i f) i g = upd l i (g ∘ f) := by
  simp only [upd_eq_modify, List.modify_modify_eq]

theorem listGetD_upd (l : List α) (i j : Nat) (f : α → α) (d : α) :
    (upd l i f).getD j d = if i = j ∧ j < l.length then f (l.getD j d) else l.getD j d := by
  rw [List.getD_eq_getElem?_getD, List.getD_eq_getElem?_getD, getElem?_upd]
  by_cases hij : i = j
  · by_cases hj : j < l.length
    · rw [if_pos hij, if_pos ⟨hij, hj⟩, List.getElem?_eq_getElem hj]; rfl
    · rw [if_pos hij, if_neg (fun h => hj h.2), List.getElem?_eq_none (Nat.le_of_not_lt hj)]; rfl
  · rw [if_neg hij, if_neg (fun h => hij h.1)]

theorem listGetD_upd_same (l : List α) (i : Nat) (f : α → α) (d : α) (h : i < l.length) :
    (upd l i f).getD i d = f (l.getD i d) := by
  rw [listGetD_upd, if_pos ⟨rfl, h⟩]

theorem listGetD_upd_ne (l : List α) (i j : Nat) (f : α → α) (d : α) (h : i ≠ j) :
    (upd l i f).getD j d = l.getD j d := by
  rw [listGetD_upd, if_neg (fun hh => h hh.1)]

theorem getD_upd [Inhabited α] (l : List α) (i j : Nat) (f : α → α) :
    getD (upd l i f) j = if i = j ∧ j < l.length then f (getD l j) else getD l j := by
  simp only [getD_eq_listGetD, listGetD_upd]

theorem getD_upd_same [Inhabited α] (l : List α) (i : Nat) (f : α → α) (h : i < l.length) :
    getD (upd l i f) i = f (getD l i) := by
  rw [getD_upd, if_pos ⟨rfl, h⟩]

theorem getD_upd_ne [Inhabited α] (l : List α) (i j : Nat) (f : α → α) (h : i ≠ j) :
    getD (upd l i f) j = getD l j := by
  rw [getD_upd, if_neg (fun hh => h hh.1)]

theorem upd_getD [Inhabited α] (l : List α) (i : Nat) (f : α → α) : upd l i f = upd l i (fun _ => f (getD l i)) :=
  upd_congr l i _ _ (fun x hx => by rw [getD_eq_listGetD, List.getD_eq_getElem?_getD, hx]; rfl)

/-- the length in the form the one-symbol worlds of C04 (`Single`) carry it -/
theorem getD_upd_zero [Inhabited α] (l : List α) (f : α → α) (h : l.length = 1) : getD (upd l 0 f) 0 = f (getD l 0) :=
  getD_upd_same l 0 f (h ▸ Nat.one_pos)

theorem mem_getD_upd_sub (l : List (List α)) (i j : Nat) (x : α) (f : List α → List α) (hf : ∀ y, ∀ z ∈ f y, z ∈ y)
    (h : x ∈ getD (upd l i f) j) : x ∈ getD l j := by
  rw [getD_upd] at h
  split at h
  · exact hf _ _ h
  · exact h

theorem getD_upd_proj [Inhabited α] {β} (g : α → β) (f : α → α) (hf : ∀ x, g (f x) = g x) (l : List α) (i j : Nat) :
    g (getD (upd l i f) j) = g (getD l j) := by
  rw [getD_upd]
  split
  · exact hf _
  · rfl

end Jesse.Acc

/-
  Proofs/Lemmas/Compose.lean — C02: the matching loop of a minute never leaves an order that was resting at
  the start of the minute with its price inside the minute's range (frame facts + path order + loop return).
-/
import Proofs.Lemmas.Frame
import Proofs.Lemmas.Match

namespace ComposeLemmas
open Jesse Jesse.Eng Jesse.Gen Jesse.Acc FrameLemmas MatchLemmas

variable {M : Type}

/-- the local `sel` of `simulateMinute`: the candidate selection of the normal simulator -/
def sel (sym : Nat) : Engine M → Candle → List Nat := fun e c =>
  let os := executingOrders e sym c
  if os.length > 1 then sortExecutionOrders e os [c] else os

theorem sel_eq_sort (sym : Nat) (e : Engine M) (c : Candle) :
    sel sym e c = sortExecutionOrders e (executingOrders e sym c) [c] := by
  unfold sel
  dsimp only
  split
  · rfl
  · rename_i h; rw [sort_single_eq e _ c (executing_included e sym c), if_pos (Nat.le_of_not_gt h)]

theorem mem_sel (sym : Nat) (e : Engine M) (c : Candle) (id : Nat) : id ∈ sel sym e c ↔ id ∈ executingOrders e sym c := by
  rw [sel_eq_sort]; exact mem_sort_single e _ c id (executing_included e sym c)

/-- the loop invariant of `loop_keep`: `e0` is the state at the start of the minute, `real` the minute's candle, `cur`
    what remains of it -/
def Keep (e0 : Engine M) (sym : Nat) (real : Candle) (e : Engine M) (cur : Candle) : Prop :=
  ∀ id, id < e0.w.orders.length → (orderOf e id).status = .active → id ∈ Acc.getD e.w.active sym →
    candleIncludesPrice real (orderOf e0 id).price → candleIncludesPrice cur (orderOf e0 id).price

theorem Keep.refl (e0 : Engine M) (sym : Nat) (real : Candle) : Keep e0 sym real e0 real := fun _ _ _ _ h => h

variable [Inhabited M] (u : UserStrategy M)

/-- each fill takes the first candidate on the path, so the split leaves every other candidate inside the remaining part -/
theorem loop_keep (e0 : Engine M) (sym : Nat) (real : Candle) (fuel : Nat) (e : Engine M) (cur : Candle) (cands : List Nat)
    (hc : cands = sel sym e cur) (hv : cur.Valid) (hext : EExt e0 e) (hkeep : Keep e0 sym real e cur)
    {r : Engine M × Candle} (hr : matchLoop u fuel e sym cur cands (sel sym) false = r) (herr : r.1.err = none) :
    Keep e0 sym real r.1 r.2 := by
  fun_induction matchLoop u fuel e sym cur cands (sel sym) false
  · subst hr; exact absurd herr (fail_err_ne _ _)
  · subst hr; exact hkeep
  · subst hr; exact hkeep
  · subst hr; exact absurd herr (fail_err_ne _ _)
  · rename_i e cur _ _ _ id0 hf a b hs _ _ _ _ ih
    subst hc
    have hmem : ∀ x ∈ sel sym e cur, (orderOf e x).status = .active ∧ candleIncludesPrice cur (orderOf e x).price :=
      fun x hx => ((mem_executingOrders e sym cur x).mp ((mem_sel sym e cur x).mp hx)).2
    -- every member of the selection can be hit, so the loop takes its head, the first on the path
    rw [firstHit_head e cur _ hmem] at hf
    obtain ⟨rest, hsel⟩ := List.head?_eq_some_iff.mp hf
    have hid0 := (hmem id0 (hsel ▸ List.mem_cons_self)).2
    have hcl := (EExt.closed e).closedAt sym
    have h4 := hcl.fill u sym a.c false (a.ts + 60000) id0 (hcl.updatePartialCandle a (EExt.refl e))
    obtain ⟨a', b', hs', hok⟩ := C08.split_valid cur (orderOf e id0).price hv hid0.1 hid0.2
    obtain ⟨rfl, rfl⟩ := Prod.mk.inj (Option.some.inj (hs.symm.trans hs'))
    refine ih rfl hok.validB (EExt.trans hext h4) ?_ hr
    intro id hid hact hreg hreal
    have hid' : id < e.w.orders.length := Nat.lt_of_lt_of_le hid hext.len
    have hact_e : (orderOf e id).status = .active := h4.noRevive id hid' hact
    have hreg_e : id ∈ Acc.getD e.w.active sym := h4.registry sym id hid' hreg
    have hp : (orderOf e id).price = (orderOf e0 id).price := (hext.same id hid).1
    have hin : id ∈ executingOrders e sym cur :=
      (mem_executingOrders e sym cur id).mpr ⟨hreg_e, hact_e, hp ▸ hkeep id hid hact_e hreg_e hreal⟩
    rw [← hp]
    exact head_first_on_path e _ cur a b id0 rest hv (executing_included e sym cur) (sel_eq_sort sym e cur ▸ hsel) hs id hin

end ComposeLemmas

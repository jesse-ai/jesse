/-
  Proofs/Lemmas/ListFacts.lean — facts about `List` that core Lean does not have and that are about no model
  definition.  Core Lean only; the loop facts (`foldl`) are in Proofs/Lemmas/Loops.lean.
-/

namespace Jesse

theorem head_of_append {α} {l1 l2 : List α} {a : α} {r : List α} (h : l1 ++ l2 = a :: r) (hn : a ∉ l1) :
    l1 = [] ∧ l2 = a :: r := by
  cases l1 with
  | nil => exact ⟨rfl, h⟩
  | cons x xs => exact absurd (List.cons.inj h).1 (fun hx => hn (hx ▸ List.mem_cons_self))

theorem getElem?_of_take_eq {α} {xs ys : List α} {n i : Nat} (h : xs.take n = ys.take n) (hi : i < n) :
    xs[i]? = ys[i]? := by
  rw [← List.getElem?_take_of_lt (l := xs) hi, ← List.getElem?_take_of_lt (l := ys) hi, h]

theorem forall_mem_set {α} {P : α → Prop} {l : List α} (hl : ∀ x ∈ l, P x) (i : Nat) {a : α} (ha : P a) :
    ∀ x ∈ l.set i a, P x :=
  fun x hx => (List.mem_or_eq_of_mem_set hx).elim (hl x) (fun h => h ▸ ha)

theorem take_set_succ {α} {cs : List α} {i : Nat} (h : i < cs.length) (c : α) :
    (cs.set i c).take (i + 1) = cs.take i ++ [c] := by
  rw [List.take_succ_eq_append_getElem (by rw [List.length_set]; exact h), List.take_set_of_le (Nat.le_refl i),
    List.getElem_set_self]

theorem lookup_filter_ne {β} (l : List (Nat × β)) (m m' : Nat) (h : m' ≠ m) :
    (l.filter (fun p => p.1 ≠ m)).lookup m' = l.lookup m' := by
  induction l with
  | nil => rfl
  | cons x xs ih =>
    by_cases hx : x.1 = m
    · rw [List.filter_cons_of_neg (by simpa using hx), ih, List.lookup_cons, hx, beq_false_of_ne h]
    · rw [List.filter_cons_of_pos (by simpa using hx), List.lookup_cons, List.lookup_cons, ih]

theorem getD_mem_or_eq {α} (l : List α) (i : Nat) (d : α) : l.getD i d ∈ l ∨ l.getD i d = d := by
  rw [List.getD_eq_getElem?_getD]
  cases h : l[i]? with
  | none => exact .inr rfl
  | some x => exact .inl (List.mem_of_getElem? h)

theorem getD_set {α} (l : List α) (i j : Nat) (a d : α) :
    (l.set i a).getD j d = if i = j ∧ j < l.length then a else l.getD j d := by
  rw [List.getD_eq_getElem?_getD, List.getD_eq_getElem?_getD, List.getElem?_set]
  by_cases hij : i = j
  · subst hij
    by_cases hl : i < l.length
    · rw [if_pos rfl, if_pos hl, if_pos ⟨rfl, hl⟩]; rfl
    · rw [if_pos rfl, if_neg hl, if_neg (fun h => hl h.2), List.getElem?_eq_none (Nat.le_of_not_lt hl)]
  · rw [if_neg hij, if_neg (fun h => hij h.1)]

theorem getD_set_ne {α} (l : List α) {s k : Nat} (x d : α) (h : s ≠ k) : (l.set k x).getD s d = l.getD s d := by
  rw [getD_set, if_neg (fun hk => h hk.1.symm)]

/-- the hypothesis is what the callers have: they know `i < (l.getD s []).length`, not `s < l.length` -/
theorem getD_set_self {α} (l : List (List α)) (s : Nat) (x : List α) (h : l.getD s [] ≠ []) : (l.set s x).getD s [] = x := by
  rw [getD_set, if_pos ⟨rfl, Nat.lt_of_not_le fun hge => h (by rw [List.getD_eq_getElem?_getD, List.getElem?_eq_none hge]; rfl)⟩]

theorem set_last {α} (l : List α) (r : α) (hne : l ≠ []) : l.set (l.length - 1) r = l.dropLast ++ [r] := by
  have hpos : 0 < l.length := List.length_pos_iff.mpr hne
  rw [List.set_eq_take_append_cons_drop, if_pos (Nat.sub_lt hpos Nat.one_pos), List.dropLast_eq_take,
    Nat.sub_add_cancel hpos, List.drop_length]

end Jesse

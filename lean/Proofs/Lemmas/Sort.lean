/-
  Proofs/Lemmas/Sort.lean — the engine's stable insertion sort (`insertBy`, `sortedBy`) used by
  `_sort_execution_orders`: it keeps the members of its input and leaves them ordered, ascending or descending.
-/
import Jesse.Engine
import Proofs.Lemmas.Loops

namespace SortLemmas
open Jesse Jesse.Eng

theorem mem_insertBy (key : Nat → Rat) (d : Bool) (x z : Nat) (l : List Nat) :
    z ∈ insertBy key d x l ↔ z = x ∨ z ∈ l := by
  induction l with
  | nil => simp [insertBy]
  | cons y ys ih =>
    rw [insertBy]
    by_cases hc : (if d = true then key y < key x else key x < key y)
    · rw [if_pos hc]; exact List.mem_cons
    · rw [if_neg hc, List.mem_cons, ih, List.mem_cons]; exact or_left_comm

theorem mem_sortedBy (key : Nat → Rat) (d : Bool) (xs : List Nat) (z : Nat) :
    z ∈ sortedBy key d xs ↔ z ∈ xs := by
  suffices h : ∀ acc, z ∈ xs.foldl (fun acc x => insertBy key d x acc) acc ↔ z ∈ xs ∨ z ∈ acc by
    rw [sortedBy, h]; simp
  induction xs with
  | nil => simp
  | cons x xs ih => intro acc; rw [List.foldl_cons, ih, mem_insertBy, List.mem_cons]; simp only [or_assoc, or_left_comm]

def Before (key : Nat → Rat) (d : Bool) (a b : Nat) : Prop := if d then key b ≤ key a else key a ≤ key b

theorem Before.refl (key : Nat → Rat) (d : Bool) (a : Nat) : Before key d a a := by
  cases d <;> exact Rat.le_refl

theorem Before.trans {key : Nat → Rat} {d : Bool} {a b c : Nat} (h1 : Before key d a b) (h2 : Before key d b c) :
    Before key d a c := by
  cases d
  · exact Rat.le_trans h1 h2
  · exact Rat.le_trans h2 h1

theorem before_of_lt {key : Nat → Rat} {d : Bool} {x y : Nat} (h : if d then key y < key x else key x < key y) :
    Before key d x y := by
  cases d <;> exact Rat.le_of_lt h

theorem before_of_not_lt {key : Nat → Rat} {d : Bool} {x y : Nat} (h : ¬ if d then key y < key x else key x < key y) :
    Before key d y x := by
  cases d <;> exact Rat.not_lt.mp h

theorem sorted_insertBy (key : Nat → Rat) (d : Bool) (x : Nat) (l : List Nat) (h : l.Pairwise (Before key d)) :
    (insertBy key d x l).Pairwise (Before key d) := by
  induction l with
  | nil => exact List.pairwise_singleton _ _
  | cons y ys ih =>
    have hy := List.pairwise_cons.mp h
    rw [insertBy]
    by_cases hlt : (if d = true then key y < key x else key x < key y)
    · rw [if_pos hlt]
      refine List.pairwise_cons.mpr ⟨fun z hz => ?_, h⟩
      rcases List.mem_cons.mp hz with rfl | hz
      · exact before_of_lt hlt
      · exact (before_of_lt hlt).trans (hy.1 z hz)
    · rw [if_neg hlt]
      refine List.pairwise_cons.mpr ⟨fun z hz => ?_, ih hy.2⟩
      rcases (mem_insertBy key d x z ys).mp hz with rfl | hz
      · exact before_of_not_lt hlt
      · exact hy.1 z hz

theorem sorted_sortedBy (key : Nat → Rat) (d : Bool) (xs : List Nat) : (sortedBy key d xs).Pairwise (Before key d) :=
  foldl_keeps (fun acc x => sorted_insertBy key d x acc) xs List.Pairwise.nil

theorem head_before {key : Nat → Rat} {d : Bool} {x : Nat} {l : List Nat} (h : (x :: l).Pairwise (Before key d))
    {z : Nat} (hz : z ∈ x :: l) : Before key d x z := by
  rcases List.mem_cons.mp hz with rfl | hz
  · exact Before.refl key d _
  · exact (List.pairwise_cons.mp h).1 z hz

end SortLemmas

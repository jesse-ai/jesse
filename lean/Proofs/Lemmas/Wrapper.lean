/-
  Proofs/Lemmas/Wrapper.lean — `helpers.slice_candles` without its length test: when not sequential it is
  `lastN warmup` of any input, since `lastN` of a list of at most `warmup` rows is the list itself.
-/
import Proofs.Lemmas.Causal
import Jesse.Ind.Wrapper

namespace Jesse.Ind

theorem sliceCandles_true {α} (cs : List α) : sliceCandles true cs = cs := rfl

theorem sliceCandles_false {α} (cs : List α) : sliceCandles false cs = lastN warmup cs := by
  by_cases h : cs.length > warmup
  · exact if_pos (by simpa using h)
  · exact (if_neg (by simpa using h)).trans (lastN_of_le _ _ (Nat.le_of_not_lt h)).symm

end Jesse.Ind

/-
  Proofs/Lemmas/Round.lean — CPython's round-half-even (`Jesse.roundHalfEven`).
-/
import Proofs.Lemmas.Num

namespace Jesse

theorem lt_floor_add_one' (x : Rat) : x < ((Rat.floor x : Int) : Rat) + 1 := lt_floorR_add_one x

theorem roundHalfEven_cases (x : Rat) :
    (roundHalfEven x = Rat.floor x ∧ x - (Rat.floor x : Rat) ≤ 1 / 2) ∨
    (roundHalfEven x = Rat.floor x + 1 ∧ 1 / 2 ≤ x - (Rat.floor x : Rat)) := by
  fun_cases roundHalfEven x
  case case1 h => exact .inl ⟨rfl, le_of_lt h⟩
  case case2 _ h => exact .inr ⟨rfl, le_of_lt h⟩
  case case3 _ h _ => exact .inl ⟨rfl, not_lt.mp h⟩
  case case4 h _ _ => exact .inr ⟨rfl, not_lt.mp h⟩

theorem roundHalfEven_intCast (n : Int) : roundHalfEven (n : Rat) = n := by
  unfold roundHalfEven
  simp only [Rat.floor_intCast, sub_self]
  norm_num

theorem roundHalfEven_mono {x y : Rat} (h : x ≤ y) : roundHalfEven x ≤ roundHalfEven y := by
  rcases eq_or_lt_of_le h with rfl | hlt
  · exact le_refl _
  · have hf := Rat.floor_monotone h
    rcases roundHalfEven_cases x with ⟨hx, _⟩ | ⟨hx, hdx⟩ <;>
    rcases roundHalfEven_cases y with ⟨hy, hdy⟩ | ⟨hy, _⟩ <;> rw [hx, hy]
    · exact hf
    · omega
    · -- `x` rounded up and a larger `y` rounded down: the floors differ
      have : (Rat.floor x : Rat) < (Rat.floor y : Rat) := by linarith
      exact Int.add_one_le_of_lt (by exact_mod_cast this)
    · omega

theorem roundHalfEven_between {x : Rat} {a b : Int} (ha : (a : Rat) ≤ x) (hb : x ≤ (b : Rat)) :
    a ≤ roundHalfEven x ∧ roundHalfEven x ≤ b := by
  have h1 := roundHalfEven_mono ha
  have h2 := roundHalfEven_mono hb
  rw [roundHalfEven_intCast] at h1 h2
  exact ⟨h1, h2⟩

end Jesse

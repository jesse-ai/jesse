/-
  Proofs/Lemmas/StoreProto.lean — for the store protocol of C07 (how the simulators write the candle store): the
  window that contains the last stored minute, complete or forming, starts at row `k0 · m`; the last candle a reader
  sees is its aggregate (`LastWindow`).
-/
import Jesse.Store
import Spec.Aggregate
import Proofs.Lemmas.Aggregate

namespace StoreProto
open Jesse Jesse.Store Spec AggLemmas

/-- number of complete windows BEFORE the window that contains the last stored minute -/
def k0 (m : Nat) (short : List Candle) : Nat := (short.length - 1) / m

theorem k0_mul_lt (m : Nat) (short : List Candle) (hne : short ≠ []) : k0 m short * m < short.length :=
  Nat.lt_of_le_of_lt (Nat.div_mul_le_self (short.length - 1) m) (Nat.sub_lt (List.length_pos_iff.mpr hne) Nat.one_pos)

theorem window_len_le (m : Nat) (short : List Candle) (hm : 0 < m) :
    short.length - k0 m short * m ≤ m := by
  have h1 := Nat.div_add_mod (short.length - 1) m
  have h2 := Nat.mod_lt (short.length - 1) hm
  unfold k0
  rw [Nat.mul_comm] at h1
  omega

theorem div_eq_k0 (m : Nat) (short : List Candle) (hne : short ≠ []) :
    short.length / m = k0 m short + if m ∣ short.length then 1 else 0 := by
  have hpos : 0 < short.length := List.length_pos_iff.mpr hne
  unfold k0
  conv => lhs; rw [← Nat.sub_add_cancel hpos, Nat.succ_div]
  rw [Nat.sub_add_cancel hpos]

theorem k0_of_boundary (m : Nat) (short : List Candle) (hne : short ≠ []) (hb : short.length % m = 0) :
    short.length / m = k0 m short + 1 ∧ k0 m short * m + m = short.length := by
  have h := div_eq_k0 m short hne
  rw [if_pos (Nat.dvd_of_mod_eq_zero hb)] at h
  exact ⟨h, by rw [← Nat.succ_mul, ← Nat.add_one, ← h]; exact Nat.div_mul_cancel (Nat.dvd_of_mod_eq_zero hb)⟩

theorem k0_of_forming (m : Nat) (short : List Candle) (hb : short.length % m ≠ 0) : short.length / m = k0 m short := by
  have hne : short ≠ [] := by rintro rfl; exact hb (Nat.zero_mod m)
  rw [div_eq_k0 m short hne, if_neg (fun h => hb (Nat.mod_eq_zero_of_dvd h)), Nat.add_zero]

theorem div_add_of_no_multiple (m a : Nat) : ∀ n, (∀ j, j < n → (a + j + 1) % m ≠ 0) → (a + n) / m = a / m
  | 0, _ => rfl
  | n + 1, h => by
    rw [← Nat.add_assoc, Nat.succ_div, if_neg (fun hd => h n (Nat.lt_succ_self n) (Nat.mod_eq_zero_of_dvd hd)),
      Nat.add_zero, div_add_of_no_multiple m a n fun j hj => h j (Nat.lt_succ_of_lt hj)]

theorem aggregate_some (cs : List Candle) (hne : cs ≠ []) :
    ∃ a c0, aggregate cs = some a ∧ cs.head? = some c0 ∧ a.ts = c0.ts := by
  cases cs with
  | nil => exact absurd rfl hne
  | cons c0 rest => exact ⟨_, c0, rfl, rfl, rfl⟩

theorem visible_ts_mem (m : Nat) (s : List Candle) (v : Candle) (hv : v ∈ visible m s) :
    ∃ c ∈ s, v.ts = c.ts := by
  unfold visible at hv
  fun_induction windows m s
  · cases hv
  · rename_i s h ih
    obtain ⟨w, hw, hwv⟩ := List.mem_filterMap.mp hv
    rcases List.mem_cons.mp hw with rfl | hw
    · cases ht : s.take m with
      | nil => rw [ht] at hwv; cases hwv
      | cons c0 rest =>
        rw [ht] at hwv
        exact ⟨c0, List.mem_of_mem_take (ht ▸ List.mem_cons_self), by cases hwv; rfl⟩
    · obtain ⟨c, hc, hts⟩ := ih (List.mem_filterMap.mpr ⟨w, hw, hwv⟩)
      exact ⟨c, List.mem_of_mem_drop hc, hts⟩

/-- the last window of `short`, complete or forming: `s0` is its first minute, `a` its aggregate -/
structure LastWindow (m : Nat) (short : List Candle) (a s0 : Candle) : Prop where
  agg : aggregate (short.drop (k0 m short * m)) = some a
  vis : visible m short = visible m (short.take (k0 m short * m)) ++ [a]
  first : short[k0 m short * m]? = some s0
  ts : a.ts = s0.ts

theorem visible_last (m : Nat) (short : List Candle) (hm : 0 < m) (hne : short ≠ []) :
    ∃ a s0, LastWindow m short a s0 := by
  have hlt := k0_mul_lt m short hne
  have hdne : short.drop (k0 m short * m) ≠ [] :=
    List.ne_nil_of_length_pos (by rw [List.length_drop]; exact Nat.sub_pos_of_lt hlt)
  obtain ⟨a, c0, ha, hc0, hts⟩ := aggregate_some _ hdne
  refine ⟨a, c0, ha, ?_, ?_, hts⟩
  · have htl : (short.take (k0 m short * m)).length = k0 m short * m := by rw [List.length_take]; omega
    conv => lhs; rw [← List.take_append_drop (k0 m short * m) short]
    rw [visible_append m _ _ _ hm htl,
      visible_window m _ a hm (by rw [List.length_drop]; exact window_len_le m short hm) ha]
  · rw [List.head?_drop] at hc0; exact hc0

end StoreProto

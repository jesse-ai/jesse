/-
  Proofs/Lemmas/Py.lean — what the Python / NumPy indexing functions of Jesse/Py.lean compute (core Lean only).
  Once a slice bound is resolved to a natural number `p` it sits at `min p n`; positions are then moved with
  `Nat.min_eq_left` and the like, because `omega` over minima and truncated subtraction is slow to check.
-/
import Jesse.Py

namespace Py

theorem normIdx_eq_some (n : Nat) (i : Int) (k : Nat) :
    normIdx n i = some k ↔ k < n ∧ ((k : Int) = i ∨ (k : Int) = n + i ∧ i < 0) := by
  unfold normIdx
  split <;> split <;> simp only [Option.some.injEq, reduceCtorEq, false_iff] <;> omega

theorem normIdx_eq_none (n : Nat) (i : Int) : normIdx n i = none ↔ (n : Int) ≤ i ∨ i < -n := by
  unfold normIdx
  split <;> split <;> simp only [reduceCtorEq, false_iff, true_iff] <;> omega

theorem normIdx_natCast {n k : Nat} (h : k < n) : normIdx n (k : Int) = some k :=
  (normIdx_eq_some n k k).mpr ⟨h, Or.inl rfl⟩

theorem normIdx_neg (n i : Nat) (hi : 1 ≤ i) (hin : i ≤ n) : normIdx n (-(i : Int)) = some (n - i) :=
  (normIdx_eq_some ..).mpr ⟨by omega, Or.inr ⟨by omega, by omega⟩⟩

theorem getIdx_neg {α} (l : List α) (i : Nat) (hi : 1 ≤ i) (hin : i ≤ l.length) :
    getIdx l (-(i : Int)) = l[l.length - i]? := by
  rw [getIdx, normIdx_neg _ _ hi hin]

theorem getIdx_neg_one {α} (l : List α) : getIdx l (-1) = l.getLast? := by
  cases l with
  | nil => rfl
  | cons x xs =>
    exact (getIdx_neg (x :: xs) 1 (Nat.le_refl 1) (Nat.succ_pos _)).trans List.getLast?_eq_getElem?.symm

theorem getIdx_map {α β} (f : α → β) (l : List α) (i : Int) : getIdx (l.map f) i = (getIdx l i).map f := by
  unfold getIdx
  rw [List.length_map]
  cases normIdx l.length i with
  | none => rfl
  | some k => exact List.getElem?_map ..

theorem clampIdx_natCast (n p : Nat) : clampIdx n (p : Int) = min p n := by
  unfold clampIdx
  rw [if_neg (by omega), Int.toNat_natCast]
  split <;> omega

theorem clampIdx_neg (n k : Nat) (hk1 : 1 ≤ k) (hk : k ≤ n) : clampIdx n (-(k : Int)) = n - k := by
  unfold clampIdx
  rw [if_pos (by omega), if_neg (by omega)]
  omega

/-- a slice bound as `DynamicNumpyArray` resolves it against its logical length `n` before NumPy sees it -/
def wrap (n i : Int) : Int := if i < 0 then max (n + i) 0 else i

/-- the idea of the slice proofs: resolving a bound first changes nothing for a sequence of that length; either way
    it lands on `min p n` for the natural number `p` the resolved bound is -/
theorem wrap_spec (n : Nat) (i : Int) : ∃ p : Nat, wrap n i = p ∧ clampIdx n i = min p n := by
  unfold wrap clampIdx
  split
  · exact ⟨(i + n).toNat, by omega, by split <;> omega⟩
  · exact ⟨i.toNat, by omega, by split <;> omega⟩

theorem clampIdx_le (n : Nat) (i : Int) : clampIdx n i ≤ n := by
  obtain ⟨p, -, h⟩ := wrap_spec n i
  exact h ▸ Nat.min_le_right p n

theorem startIdx_wrap (n : Nat) (s : Option Int) :
    ∃ p : Nat, wrap n (s.getD 0) = p ∧ startIdx n s = min p n := by
  cases s with
  | none => exact ⟨0, rfl, (Nat.zero_min n).symm⟩
  | some x => exact wrap_spec n x

theorem stopIdx_le (n : Nat) (e : Option Int) : stopIdx n e ≤ n := by
  cases e with
  | none => exact Nat.le_refl n
  | some x => exact clampIdx_le n x

/-- an equation, not an existential like `startIdx_wrap`: the array class clamps the stop itself (`getSlice_eq`), and this is
    the rule that rewrites its expression; the start it passes on as resolved -/
theorem stopIdx_wrap (n : Nat) (e : Option Int) : min (wrap n (e.getD n)) n = (stopIdx n e : Int) := by
  cases e with
  | none => rw [Option.getD_none, wrap, if_neg (by omega)]; exact Int.min_self _
  | some x =>
    obtain ⟨p, hp, hc⟩ := wrap_spec n x
    rw [Option.getD_some, hp, stopIdx, hc]; omega

theorem slice_natCast {α} (xs : List α) (p q : Nat) :
    slice xs (some (p : Int)) (some (q : Int)) =
      (xs.drop (min p xs.length)).take (min q xs.length - min p xs.length) := by
  simp only [slice, startIdx, stopIdx, clampIdx_natCast]

theorem length_slice {α} (l : List α) (s e : Option Int) :
    (slice l s e).length = stopIdx l.length e - startIdx l.length s := by
  rw [slice, List.length_take, List.length_drop, Nat.min_eq_left (Nat.sub_le_sub_right (stopIdx_le ..) _)]

theorem slice_take {α} (xs : List α) (n p q : Nat) (hq : q ≤ n) :
    slice (xs.take n) (some (p : Int)) (some (q : Int)) = slice xs (some (p : Int)) (some (q : Int)) := by
  rcases Nat.le_total xs.length n with hn | hn
  · rw [List.take_of_length_le hn]
  have hqL := Nat.le_trans hq hn
  rw [slice_natCast, slice_natCast, List.length_take, Nat.min_eq_left hn, Nat.min_eq_left hq, Nat.min_eq_left hqL,
    List.drop_take, List.take_take]
  rcases Nat.le_total p n with hp | hp
  · rw [Nat.min_eq_left hp, Nat.min_eq_left (Nat.le_trans hp hn), Nat.min_eq_left (Nat.sub_le_sub_right hq p)]
  · -- the start lies behind the first `n` items: both slices are empty
    rw [Nat.min_eq_right hp, Nat.sub_eq_zero_of_le hq,
      Nat.sub_eq_zero_of_le (Nat.le_min.mpr ⟨Nat.le_trans hq hp, hqL⟩), Nat.zero_min, List.take_zero, List.take_zero]

theorem slice_of_le {α} (xs : List α) (a b : Nat) (hab : a ≤ b) (hb : b ≤ xs.length) :
    slice xs (some (a : Int)) (some (b : Int)) = (xs.take b).drop a := by
  rw [slice_natCast, Nat.min_eq_left hb, Nat.min_eq_left (Nat.le_trans hab hb), List.drop_take]

/-- the last `k` of the first `b` items; `lo` and `hi` come with equations because the callers (the two simulators,
    Proofs/C07) compute them as integers by different formulas -/
theorem slice_window {α} (cs rows : List α) (b k : Nat) (lo hi : Int) (hlo : lo = (b : Int) - k) (hhi : hi = b)
    (hk : k ≤ b) (hlen : rows.length = b) (hcs : cs.take b = rows) :
    slice cs (some lo) (some hi) = rows.drop (b - k) := by
  have hb : b ≤ cs.length := by rw [← hlen, ← hcs, List.length_take]; exact Nat.min_le_right _ _
  rw [hlo, hhi, ← Int.ofNat_sub hk, slice_of_le cs _ b (Nat.sub_le b k) hb, hcs]

theorem slice_tail_length {α} (l : List α) (k : Nat) (hk1 : 1 ≤ k) (hk : k ≤ l.length) :
    (slice l (some (-(k : Int))) none).length = k := by
  rw [length_slice, startIdx, clampIdx_neg _ _ hk1 hk]
  exact Nat.sub_sub_self hk

/-- `xs[s : s + len(ys)] = ys` -/
def splice {α} (xs : List α) (s : Nat) (ys : List α) : List α := xs.take s ++ ys ++ xs.drop (s + ys.length)

theorem length_splice {α} (xs ys : List α) (s : Nat) (h : s + ys.length ≤ xs.length) :
    (splice xs s ys).length = xs.length := by
  rw [splice, List.length_append, List.length_append, List.length_take, List.length_drop,
    Nat.min_eq_left (Nat.le_trans (Nat.le_add_right ..) h), Nat.add_sub_cancel' h]

theorem splice_nil {α} (xs : List α) (s : Nat) : splice xs s [] = xs := by
  simp only [splice, List.append_nil, List.length_nil, Nat.add_zero, List.take_append_drop]

theorem take_splice {α} (xs ys : List α) (s n : Nat) (h : s + ys.length ≤ n) (hn : n ≤ xs.length) :
    (splice xs s ys).take n = splice (xs.take n) s ys := by
  have hs : s ≤ n := Nat.le_trans (Nat.le_add_right ..) h
  have hl : (xs.take s ++ ys).length = s + ys.length := by
    rw [List.length_append, List.length_take, Nat.min_eq_left (Nat.le_trans hs hn)]
  unfold splice
  rw [List.take_append, hl, List.take_of_length_le (Nat.le_trans (Nat.le_of_eq hl) h), List.take_take, List.drop_take,
    Nat.min_eq_left hs]

theorem splice_singleton {α} (xs : List α) (s : Nat) (x : α) (h : s < xs.length) :
    splice xs s [x] = xs.set s x := by
  rw [splice, List.set_eq_take_append_cons_drop, if_pos h, List.append_assoc]; rfl

theorem take_splice_end {α} (xs ys : List α) (s : Nat) (h : s ≤ xs.length) :
    (splice xs s ys).take (s + ys.length) = xs.take s ++ ys := by
  have hl : (xs.take s ++ ys).length = s + ys.length := by
    rw [List.length_append, List.length_take, Nat.min_eq_left h]
  rw [splice, List.take_append_of_le_length (Nat.le_of_eq hl.symm), List.take_of_length_le (Nat.le_of_eq hl)]

theorem setSlice_eq {α} (xs ys : List α) (s e : Option Int)
    (h : stopIdx xs.length e - startIdx xs.length s = ys.length) :
    setSlice xs s e ys = some (splice xs (startIdx xs.length s) ys) := by
  simp only [setSlice, h, if_true, splice]

theorem setSlice_tail {α} (l items : List α) (k : Nat) (hk1 : 1 ≤ k) (hk : k ≤ l.length) (hlen : items.length = k) :
    setSlice l (some (-(k : Int))) none items = some (l.take (l.length - k) ++ items) := by
  have hs : startIdx l.length (some (-(k : Int))) = l.length - k := clampIdx_neg _ _ hk1 hk
  rw [setSlice_eq _ _ _ _ (by rw [hs, hlen]; exact Nat.sub_sub_self hk), hs, splice, hlen, Nat.sub_add_cancel hk,
    List.drop_length, List.append_nil]

theorem shiftLeft_spec {α} (xs : List α) (k : Nat) (fill : α) (hk : k < xs.length) :
    (shiftLeft xs k fill).length = xs.length ∧
    ∀ m, m + k ≤ xs.length → (shiftLeft xs k fill).take m = (xs.drop k).take m := by
  unfold shiftLeft
  split
  · rename_i h0; subst h0; exact ⟨rfl, fun _ _ => rfl⟩
  · rw [if_neg (Nat.not_le.mpr hk)]
    refine ⟨by rw [List.length_append, List.length_drop, List.length_replicate, Nat.sub_add_cancel (Nat.le_of_lt hk)],
      fun m hm => ?_⟩
    rw [List.take_append_of_le_length (by rw [List.length_drop]; exact Nat.le_sub_of_add_le hm)]

theorem shiftLeft_set {α} (xs : List α) (k i : Nat) (fill x : α) (hk : k ≤ i) (hi : i < xs.length) :
    shiftLeft (xs.set i x) k fill = (shiftLeft xs k fill).set (i - k) x := by
  unfold shiftLeft
  rw [List.length_set]
  split
  · rename_i h0; subst h0; rfl
  · have hkl : ¬ k ≥ xs.length := Nat.not_le.mpr (Nat.lt_of_le_of_lt hk hi)
    rw [if_neg hkl, if_neg hkl, List.drop_set, if_neg (Nat.not_lt.mpr hk),
      List.set_append_left _ _ (by rw [List.length_drop]; exact Nat.sub_lt_sub_right hk hi)]

end Py

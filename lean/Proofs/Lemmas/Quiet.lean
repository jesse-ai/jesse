/-
  Proofs/Lemmas/Quiet.lean — helper lemmas for C12: spans of minutes in which no resting order of the
  symbol is reachable and no liquidation is possible; and that the rows the step simulator sees for a chunk are the
  minutes the fast simulator walks (`fixChunk`) and the rows the normal simulator stores (`C07.fixChain`).
-/
import Proofs.Lemmas.Match
import Proofs.C07.Aggregate
import Proofs.C09

namespace QuietLemmas
open Jesse Jesse.Eng Jesse.Gen Jesse.Acc MatchLemmas

variable {M : Type}

/-- no forced liquidation can happen for the symbol: cross margin, spot, or a flat position -/
def NoLiq (e : Engine M) (sym : Nat) : Prop := (¬ e.cfg.isolated ∨ e.w.kind = .spot) ∨ (posOf e sym).qty = 0

theorem noLiq_setPrice (e : Engine M) (sym s2 : Nat) (p : Rat) (h : NoLiq e sym) : NoLiq (setCurrentPrice e s2 p) sym :=
  h.imp id (fun h => (getD_upd_proj (fun q : Pos => q.qty) (fun q => { q with current := some p }) (fun _ => rfl) e.w.pos s2 sym).trans h)

theorem quiet_of_aggregate_quiet (e : Engine M) (sym : Nat) (real m : Candle) (hq : executingOrders e sym real = [])
    (hlo : real.l ≤ m.l) (hhi : m.h ≤ real.h) : executingOrders e sym m = [] := by
  refine List.eq_nil_iff_forall_not_mem.mpr (fun id hid => ?_)
  obtain ⟨h1, h2, h3⟩ := (mem_executingOrders e sym m id).mp hid
  exact List.not_mem_nil (hq ▸ (mem_executingOrders e sym real id).mpr
    ⟨h1, h2, Rat.le_trans hlo h3.1, Rat.le_trans h3.2 hhi⟩)

variable [Inhabited M] (u : UserStrategy M)

theorem checkLiquidation_noop (e : Engine M) (sym : Nat) (c : Candle) (h : NoLiq e sym) : checkLiquidation u e sym c = e :=
  (C09.untouched_or_touched u e sym c).resolve_right
    (fun ⟨hi, hk, hq, _⟩ => h.elim (fun h => h.elim (fun h => h hi) hk) hq)

/-- a minute in which no active order of the symbol is reachable and no liquidation is possible only
    stores the candle and moves the current price -/
theorem quiet_minute (fuel : Nat) (e : Engine M) (sym : Nat) (c : Candle) (herr : e.err = none)
    (hq : executingOrders e sym c = []) (hl : NoLiq e sym) :
    simulateMinute u (fuel + 1) e sym c = setCurrentPrice (addCandle e sym 1 c) sym c.c := by
  unfold simulateMinute
  simp only [herr, Option.isSome_none, Bool.false_eq_true, if_false, hq, List.length_nil, Nat.not_lt_zero,
    matchLoop_nil u fuel e sym c _ false herr]
  exact checkLiquidation_noop u _ sym c (noLiq_setPrice _ _ _ _ hl)

/-- a chunk in which no active order of the symbol is reachable (its aggregate candle contains no resting
    price) and no liquidation is possible only stores the candles, moves the clock and the current price -/
theorem quiet_chunk (fuel : Nat) (e : Engine M) (sym : Nat) (cs : List Candle) (real last : Candle) (short' : List Candle)
    (herr : e.err = none) (hgen : Store.generate 0 cs = .ok real) (hq : executingOrders e sym real = [])
    (hl : NoLiq e sym) (hadd : Store.addMultiple1m (storeOf e sym).short cs = .ok short') (hlast : cs.getLast? = some last) :
    simulateChunk u fuel e sym cs =
      setCurrentPrice { e with stores := upd e.stores sym (fun s => { s with short := short' }),
                               time := real.ts + 60000 * cs.length } sym last.c := by
  unfold simulateChunk
  simp only [herr, Option.isSome_none, Bool.false_eq_true, if_false, hgen, hq, List.length_nil, Nat.lt_irrefl, hadd, hlast]
  rw [checkLiquidation_noop]
  exact hl

/-- what `symStep` does with a minute row `m` once it is jump-fixed and before the bigger timeframes: store the 1m candle, match -/
def stepMinute (fuel : Nat) (sym : Nat) (e : Engine M) (m : Candle) : Engine M :=
  simulateMinute u (fuel + 1) (addCandle e sym 1 m) sym m

theorem quiet_span (fuel : Nat) (sym : Nat) (ms : List Candle) (e : Engine M) (l : Candle) (herr : e.err = none)
    (hq : ∀ m ∈ ms, executingOrders e sym m = []) (hl : NoLiq e sym) (hlast : ms.getLast? = some l) :
    ∃ st, ms.foldl (stepMinute u fuel sym) e = { e with stores := st, w := Acc.setPrice e.w sym l.c } := by
  induction ms generalizing e with
  | nil => cases hlast
  | cons m rest ih =>
    have hstep : stepMinute u fuel sym e m = setCurrentPrice (addCandle (addCandle e sym 1 m) sym 1 m) sym m.c :=
      quiet_minute u fuel (addCandle e sym 1 m) sym m herr (hq m List.mem_cons_self) hl
    rw [List.foldl_cons, hstep]
    cases rest with
    | nil => cases hlast; exact ⟨_, rfl⟩
    | cons m' rest' =>
      obtain ⟨st, h⟩ := ih (setCurrentPrice (addCandle (addCandle e sym 1 m) sym 1 m) sym m.c) herr
        (fun x hx => hq x (List.mem_cons_of_mem _ hx)) (noLiq_setPrice _ _ _ _ hl) hlast
      exact ⟨st, h.trans (by rw [setCurrentPrice, setPrice_setPrice]; rfl)⟩

/-- the rows the step simulator processes for a chunk whose first row is already jump-fixed: every later
    row is jump-fixed against its predecessor -/
def stepRows : List Candle → List Candle
  | [] => []
  | c :: rest => c :: List.zipWith fixJump (c :: rest) rest

/-- QUIET SPAN: if no active order of the symbol has its price inside the aggregate candle of a chunk and no
    liquidation is possible, the step simulator (minute by minute over rows within the aggregate's range that
    end on the same close) and the fast simulator (the chunk at once) leave the SAME trading state: accounts
    (incl. the current price), orders, strategy states, pending market orders, trace, error flag — every field but the
    candle stores, the clock and the configuration. -/
theorem quiet_span_agree (fuel : Nat) (e : Engine M) (sym : Nat) (cs ms : List Candle) (real last : Candle)
    (short' : List Candle) (herr : e.err = none) (hgen : Store.generate 0 cs = .ok real)
    (hq : executingOrders e sym real = []) (hl : NoLiq e sym)
    (hadd : Store.addMultiple1m (storeOf e sym).short cs = .ok short') (hlast : cs.getLast? = some last)
    (hin : ∀ m ∈ ms, real.l ≤ m.l ∧ m.h ≤ real.h) (hms : ms.getLast?.map (·.c) = some last.c) :
    let r := ms.foldl (stepMinute u fuel sym) e
    let f := simulateChunk u fuel e sym cs
    r.w = f.w ∧ r.log = f.log ∧ r.strat = f.strat ∧ r.toExecute = f.toExecute ∧ r.err = f.err ∧ r.via = f.via
    ∧ r.storage = f.storage ∧ r.liquidations = f.liquidations ∧ r.daily = f.daily := by
  intro r f
  obtain ⟨m, hm, hmc⟩ := Option.map_eq_some_iff.mp hms
  obtain ⟨st, hr⟩ := quiet_span u fuel sym ms e m herr
    (fun x hx => quiet_of_aggregate_quiet e sym real x hq (hin x hx).1 (hin x hx).2) hl hm
  have hf : f = _ := quiet_chunk u fuel e sym cs real last short' herr hgen hq hl hadd hlast
  rw [show r = _ from hr, hf, hmc]
  exact ⟨rfl, rfl, rfl, rfl, rfl, rfl, rfl, rfl, rfl⟩

/-! ### the minutes the fast simulator walks ARE the minutes the normal simulator stores

`fixChunk` (the chunk's minutes as the fast simulator sorts and matches them: each fixed against the previous RAW
minute), `stepRows` and `C07.fixChain` (the rows the normal simulator writes back and stores: each fixed against the
previous FIXED row) are the same list — the jump fix reads nothing of the previous candle but its close, which it never
changes.  So the rows of the step simulator aggregate to the chunk's aggregate candle (`C07.aggregate_fixChain`) and lie
inside its range. -/

theorem fixJump_prev_close (p q x : Candle) (h : p.c = q.c) : fixJump p x = fixJump q x := by
  unfold fixJump; rw [h]

theorem fixChunk_eq_fixChain (cs : List Candle) : ∀ (p q : Candle), p.c = q.c → fixChunk (some p) cs = C07.fixChain q cs := by
  induction cs with
  | nil => intro _ _ _; rfl
  | cons c cs ih =>
    intro p q h
    have hc : c.c = (fixJump q c).c := (C07.fixJump_c q c).symm
    simp only [fixChunk, C07.fixChain]
    rw [fixJump_prev_close p q c h, ih c (fixJump q c) hc]

theorem stepRows_eq_fixChunk (cs : List Candle) : stepRows cs = fixChunk none cs := by
  have h : ∀ (rest : List Candle) (c : Candle), List.zipWith fixJump (c :: rest) rest = fixChunk (some c) rest := by
    intro rest
    induction rest with
    | nil => intro _; rfl
    | cons x xs ih => intro c; rw [List.zipWith_cons_cons, ih x]; rfl
  cases cs with
  | nil => rfl
  | cons c rest => rw [stepRows, h rest c]; rfl

theorem aggregate_stepRows (cs : List Candle) (hv : ∀ c ∈ cs, c.Valid) : Spec.aggregate (stepRows cs) = Spec.aggregate cs := by
  cases cs with
  | nil => rfl
  | cons c rest => rw [stepRows_eq_fixChunk, fixChunk, fixChunk_eq_fixChain rest c c rfl, C07.aggregate_fixChain c rest hv]

end QuietLemmas

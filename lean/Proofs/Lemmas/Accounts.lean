/-
  Proofs/Lemmas/Accounts.lean — the lemmas of the accounts model (Jesse/Accounts.lean) itself: what a submission returns,
  which fields each step of `Order.execute` / `Order.cancel` may write, and what the two do to the order table.
  Used by C03–C06 and by the frame of the engine (WorldFrame.lean).
-/
import Proofs.Lemmas.Upd

namespace Jesse.Acc
open Jesse

def newOrder (w : World) (sym : Nat) (side : Side) (type : OrderType) (qtyAbs price : Rat) (ro : Bool) : Order :=
  ⟨w.orders.length, sym, side, type, if side = .sell then -(absR qtyAbs) else absR qtyAbs, price, ro, .active⟩

theorem absR_newOrder_qty (w : World) (sym : Nat) (side : Side) (type : OrderType) (q p : Rat) (ro : Bool) :
    absR (newOrder w sym side type q p ro).qty = absR q := by
  unfold newOrder
  dsimp only
  split
  · unfold absR; grind
  · unfold absR; grind

/-- `store.orders.add_order` -/
def register (w : World) (o : Order) : World :=
  { w with orders := w.orders ++ [o], active := upd w.active o.sym (· ++ [o.id]) }

theorem getElem?_register (w : World) (o : Order) : (register w o).orders[w.orders.length]? = some o :=
  List.getElem?_concat_length

theorem submit_futures (w : World) (hk : w.kind = .futures) (sym : Nat) (side : Side) (type : OrderType) (q p : Rat)
    (ro : Bool) :
    submit w sym side type q p ro =
      if ¬ ro ∧ absR ((newOrder w sym side type q p ro).qty * p) / w.leverage > availableMargin w then
        .error (.InsufficientMargin, w)
      else .ok (register
        (if ro then w
         else if side = .buy then
           { w with buyRows := upd w.buyRows sym (· ++ [((newOrder w sym side type q p ro).qty, p)]) }
         else { w with sellRows := upd w.sellRows sym (· ++ [((newOrder w sym side type q p ro).qty, p)]) })
        (newOrder w sym side type q p ro)) := by
  -- rewriting with `hk` would also rewrite the `kind` field of every `{ w with … }`: destructure `w` instead
  cases w; cases hk; rfl

/-- spot: the cost of a buy is reserved before the balance check, so a rejected buy leaves it booked.  `absR (absR q)` (and
    `absR (-(absR q))` for a sell) is the model's own expression, kept so that the equation holds by `rfl`; users normalise
    with `absR_absR` / `absR_neg` -/
theorem submit_spot_buy (w : World) (hk : w.kind = .spot) (sym : Nat) (type : OrderType) (q p : Rat) (ro : Bool) :
    submit w sym .buy type q p ro =
      if w.wallet - absR (absR q) * p < 0 then
        .error (.InsufficientBalance, { w with wallet := w.wallet - absR (absR q) * p })
      else .ok (register { w with wallet := w.wallet - absR (absR q) * p } (newOrder w sym .buy type q p ro)) := by
  cases w; cases hk; rfl

/-- `SpotExchange.on_order_submission`, sell side -/
def addResting (w : World) (sym : Nat) (type : OrderType) (x : Rat) : World :=
  match type with
  | .market => w
  | .limit => { w with limitSum := upd w.limitSum sym (· + x) }
  | .stop => { w with stopSum := upd w.stopSum sym (· + x) }

/-- spot: what a new sell of size `x` is checked against: itself plus the resting sells of its kind (the resting
    LIMIT sells for a MARKET sell) -/
def sellLoad (w : World) (sym : Nat) (type : OrderType) (x : Rat) : Rat :=
  match type with
  | .market => x + getD w.limitSum sym
  | .limit => getD (addResting w sym .limit x).limitSum sym
  | .stop => getD (addResting w sym .stop x).stopSum sym

theorem submit_spot_sell (w : World) (hk : w.kind = .spot) (sym : Nat) (type : OrderType) (q p : Rat) (ro : Bool) :
    submit w sym .sell type q p ro =
      if sellLoad w sym type (absR (-(absR q))) > getD w.base sym then
        .error (.InsufficientBalance, addResting w sym type (absR (-(absR q))))
      else .ok (register (addResting w sym type (absR (-(absR q)))) (newOrder w sym .sell type q p ro)) := by
  cases w; cases hk; cases type <;> rfl

theorem addResting_orders_active (w : World) (sym : Nat) (type : OrderType) (x : Rat) :
    (addResting w sym type x).orders = w.orders ∧ (addResting w sym type x).active = w.active := by
  cases type <;> exact ⟨rfl, rfl⟩

theorem submit_cases (w : World) (sym : Nat) (side : Side) (type : OrderType) (q p : Rat) (ro : Bool) :
    (∃ k w1, submit w sym side type q p ro = .error (k, w1) ∧ w1.orders = w.orders ∧ w1.active = w.active) ∨
    (∃ w1, submit w sym side type q p ro = .ok (register w1 (newOrder w sym side type q p ro)) ∧
      w1.orders = w.orders ∧ w1.active = w.active) := by
  cases hk : w.kind
  · rw [submit_futures w hk]
    split
    · exact .inl ⟨_, _, rfl, rfl, rfl⟩
    · refine .inr ⟨_, rfl, ?_⟩
      split
      · exact ⟨rfl, rfl⟩
      · split <;> exact ⟨rfl, rfl⟩
  · cases side
    · rw [submit_spot_buy w hk]
      split
      · exact .inl ⟨_, _, rfl, rfl, rfl⟩
      · exact .inr ⟨_, rfl, rfl, rfl⟩
    · rw [submit_spot_sell w hk]
      split
      · exact .inl ⟨_, _, rfl, addResting_orders_active _ _ _ _⟩
      · exact .inr ⟨_, rfl, addResting_orders_active _ _ _ _⟩

theorem submit_ok {w w' : World} {sym : Nat} {side : Side} {type : OrderType} {q p : Rat} {ro : Bool}
    (h : submit w sym side type q p ro = .ok w') :
    w'.orders = w.orders ++ [newOrder w sym side type q p ro] ∧
      w'.active = upd w.active sym (· ++ [w.orders.length]) := by
  rcases submit_cases w sym side type q p ro with ⟨_, _, e, _⟩ | ⟨w1, e, ho, ha⟩ <;> rw [e] at h <;> cases h
  exact ⟨congrArg (· ++ _) ho, congrArg (upd · _ _) ha⟩

theorem submit_err {w w' : World} {k : Err} {sym : Nat} {side : Side} {type : OrderType} {q p : Rat} {ro : Bool}
    (h : submit w sym side type q p ro = .error (k, w')) : w'.orders = w.orders ∧ w'.active = w.active := by
  rcases submit_cases w sym side type q p ro with ⟨_, _, e, ho⟩ | ⟨_, e, _⟩ <;> rw [e] at h <;> cases h
  exact ho

/-- the frame of `Position._on_executed_order` on symbol `s`: the wallet, the position of `s` and the trade records are all
    that the position side of a fill may write -/
def FillOnly (s : Nat) (w w' : World) : Prop :=
  ∃ x f tr tm, w' = { w with wallet := x, pos := upd w.pos s f, trades := tr, temp := tm }

theorem FillOnly.trans {s : Nat} {a b c : World} (h1 : FillOnly s a b) (h2 : FillOnly s b c) : FillOnly s a c := by
  obtain ⟨x, f, tr, tm, rfl⟩ := h1
  obtain ⟨y, g, tr', tm', rfl⟩ := h2
  exact ⟨y, g ∘ f, tr', tm', by simp only [upd_upd]⟩

theorem FillOnly.pos {s : Nat} {w : World} (f : Pos → Pos) : FillOnly s w { w with pos := upd w.pos s f } := ⟨_, f, _, _, rfl⟩
theorem FillOnly.wallet_records {s : Nat} {w : World} (x : Rat) (tr tm : List Trade) :
    FillOnly s w { w with wallet := x, trades := tr, temp := tm } := ⟨x, id, tr, tm, by rw [upd_id]⟩

theorem FillOnly.refl (s : Nat) (w : World) : FillOnly s w w := .wallet_records w.wallet w.trades w.temp

theorem closeTrade_shape (w : World) (s : Nat) : ∃ tr tm, closeTrade w s = { w with trades := tr, temp := tm } := by
  fun_cases closeTrade w s <;> exact ⟨_, _, rfl⟩

theorem fillOnly_closeTrade (s : Nat) (w : World) (a : Nat) : FillOnly s w (closeTrade w a) := by
  obtain ⟨_, _, h⟩ := closeTrade_shape w a
  rw [h]; exact .wallet_records _ _ _

theorem chargeFee_futures {w : World} (hk : w.kind = .futures) (o : Order) :
    chargeFee w o = { w with wallet := w.wallet - absR (o.qty * o.price) * w.fee } := by
  unfold chargeFee; rw [hk]

theorem fillOnly_chargeFee (s : Nat) (w : World) (o : Order) : FillOnly s w (chargeFee w o) := by
  fun_cases chargeFee w o
  · exact .wallet_records _ _ _
  · exact .refl s w

theorem fillOnly_mutOpen (w : World) (s : Nat) (q p : Rat) : FillOnly s w (mutOpen w s q p) :=
  (FillOnly.pos _).trans ((FillOnly.pos _).trans (.wallet_records _ _ _))

theorem fillOnly_mutClose (w : World) (s : Nat) (p : Rat) : FillOnly s w (mutClose w s p) := by
  unfold mutClose
  refine .trans (.trans (.trans ?_ (.pos _)) (.pos _)) (fillOnly_closeTrade s _ s)
  split
  · exact .wallet_records _ _ _
  · exact .refl s w

theorem fillOnly_mutReduce (w : World) (s : Nat) (q p : Rat) : FillOnly s w (mutReduce w s q p) := by
  unfold mutReduce
  have h : FillOnly s w (match w.kind, (getD w.pos s).entry with
      | .futures, some e => addRealized w (Jesse.Gen.estimatePNL (absR q) e p (getD w.pos s).type 0)
      | _, _ => w) := by
    split
    · exact .wallet_records _ _ _
    · exact .refl s w
  dsimp only
  split
  · exact h.trans (.pos _)
  · split
    · exact h.trans (.pos _)
    · exact h

theorem fillOnly_mutIncrease (w : World) (s : Nat) (q p : Rat) : FillOnly s w (mutIncrease w s q p) := by
  fun_cases mutIncrease w s q p
  · exact (FillOnly.pos _).trans (.pos _)
  · exact (FillOnly.pos _).trans (.pos _)
  · exact .pos _

theorem fillOnly_onExecutedCore (w : World) (o : Order) : FillOnly o.sym w (onExecutedCore w o) := by
  fun_cases onExecutedCore w o
  · exact fillOnly_mutOpen ..
  · exact fillOnly_mutClose ..
  · exact .refl _ _
  · exact fillOnly_mutIncrease ..
  · exact fillOnly_mutClose ..
  · exact (fillOnly_mutClose ..).trans (fillOnly_mutOpen ..)
  · exact fillOnly_mutReduce ..
  · exact .refl _ _

theorem fillOnly_onExecuted (w : World) (o : Order) : FillOnly o.sym w (onExecuted w o) :=
  (fillOnly_chargeFee o.sym w o).trans (fillOnly_onExecutedCore _ o)

theorem setPrice_setPrice (w : World) (sym : Nat) (a b : Rat) : setPrice (setPrice w sym a) sym b = setPrice w sym b := by
  unfold setPrice
  simp only [upd_upd]
  rfl

theorem releaseSell_eq (w : World) (o : Order) :
    releaseSell w o =
      { w with stopSum := if o.side = .sell ∧ o.type = .stop then upd w.stopSum o.sym (· - absR o.qty) else w.stopSum,
               limitSum := if o.side = .sell ∧ o.type = .limit then upd w.limitSum o.sym (· - absR o.qty)
                           else w.limitSum } := by
  obtain ⟨_, _, side, type, _, _, _, _⟩ := o
  cases side <;> cases type <;> rfl

theorem exchangeOnExecution_shape (w : World) (o : Order) :
    ∃ x b ss ls br sr, exchangeOnExecution w o =
      { w with wallet := x, base := b, stopSum := ss, limitSum := ls, buyRows := br, sellRows := sr } := by
  unfold exchangeOnExecution
  obtain ⟨ss, ls, h⟩ : ∃ ss ls, releaseSell w o = { w with stopSum := ss, limitSum := ls } := ⟨_, _, releaseSell_eq w o⟩
  rw [h]
  split
  · split
    · exact ⟨_, _, _, _, _, _, rfl⟩
    · split <;> exact ⟨_, _, _, _, _, _, rfl⟩
  · split <;> exact ⟨_, _, _, _, _, _, rfl⟩

theorem exchangeOnExecution_futures {w : World} (hk : w.kind = .futures) (o : Order) :
    ∃ br sr, exchangeOnExecution w o = { w with buyRows := br, sellRows := sr } := by
  fun_cases exchangeOnExecution w o
  · exact ⟨_, _, rfl⟩
  · exact ⟨_, _, rfl⟩
  · exact ⟨_, _, rfl⟩
  all_goals (rename_i h _ _; rw [hk] at h; cases h)

/-- what `execute` (`s` = executed) and `cancel` (`s` = canceled) do to the order they are called on: with it both are
    `upd orders id (finalize s)` in every case, the unknown and the already final id included (`execute_orders`,
    `cancel_orders`) -/
def Order.finalize (s : OrderStatus) (o : Order) : Order := if o.status = .active then { o with status := s } else o

theorem Order.finalize_same (s : OrderStatus) (o : Order) :
    (o.finalize s).price = o.price ∧ (o.finalize s).sym = o.sym := by
  unfold Order.finalize; split <;> exact ⟨rfl, rfl⟩
theorem Order.finalize_of_final (s : OrderStatus) {o : Order} (h : o.status ≠ .active) : o.finalize s = o := if_neg h
theorem Order.finalize_not_active {s : OrderStatus} (hs : s ≠ .active) (o : Order) : (o.finalize s).status ≠ .active := by
  unfold Order.finalize; split
  · exact hs
  · assumption

theorem upd_finalize_of_final {os : List Order} {i : Nat} (s : OrderStatus)
    (h : ∀ o, os[i]? = some o → o.status ≠ .active) : upd os i (Order.finalize s) = os :=
  (upd_congr os i _ _root_.id (fun o ho => if_neg (h o ho))).trans (upd_id os i)

theorem upd_finalize_of_active {os : List Order} {i : Nat} {o : Order} (s : OrderStatus)
    (ho : os[i]? = some o) (ha : o.status = .active) :
    upd os i (fun o => { o with status := s }) = upd os i (Order.finalize s) :=
  upd_congr os i _ _ (fun x hx => by rw [ho] at hx; cases hx; exact (if_pos ha).symm)

theorem execute_noop {w : World} {id : Nat} (h : ∀ o, w.orders[id]? = some o → o.status ≠ .active) : execute w id = w := by
  fun_cases execute w id
  · rfl
  · rfl
  · exact absurd (h _ ‹_›) ‹_›

theorem cancel_noop {w : World} {id : Nat} (h : ∀ o, w.orders[id]? = some o → o.status ≠ .active) : cancel w id = w := by
  fun_cases cancel w id
  · rfl
  · rfl
  all_goals exact absurd (h _ ‹_›) ‹_›

theorem execute_eq {w : World} {id : Nat} {o : Order} (ho : w.orders[id]? = some o) (ha : o.status = .active) :
    execute w id = onExecuted (exchangeOnExecution (addExecutedOrder (setStatus w id .executed) o) o) o := by
  unfold execute
  rw [ho]
  exact if_neg (not_not_intro ha)

theorem cancel_eq {w : World} {id : Nat} {o : Order} (ho : w.orders[id]? = some o) (ha : o.status = .active) :
    cancel w id =
      match w.kind with
      | .futures =>
        if o.reduceOnly then setStatus w id .canceled
        else if o.side = .buy then
          { setStatus w id .canceled with buyRows := upd w.buyRows o.sym (eraseRow · o.qty o.price) }
        else { setStatus w id .canceled with sellRows := upd w.sellRows o.sym (eraseRow · o.qty o.price) }
      | .spot =>
        if o.side = .buy then
          { releaseSell (setStatus w id .canceled) o with
            wallet := (releaseSell (setStatus w id .canceled) o).wallet + absR o.qty * o.price }
        else releaseSell (setStatus w id .canceled) o := by
  unfold cancel
  rw [ho]
  exact if_neg (not_not_intro ha)

theorem execute_shape (w : World) (id : Nat) :
    ∃ x b ss ls ps br sr tr tm, execute w id =
      { w with wallet := x, base := b, stopSum := ss, limitSum := ls, pos := ps, buyRows := br, sellRows := sr,
               orders := upd w.orders id (Order.finalize .executed), trades := tr, temp := tm } := by
  by_cases hact : ∃ o, w.orders[id]? = some o ∧ o.status = .active
  · obtain ⟨o, ho, ha⟩ := hact
    obtain ⟨_, _, _, _, h1⟩ := fillOnly_onExecuted (exchangeOnExecution (addExecutedOrder (setStatus w id .executed) o) o) o
    obtain ⟨_, _, _, _, _, _, h2⟩ := exchangeOnExecution_shape (addExecutedOrder (setStatus w id .executed) o) o
    rw [execute_eq ho ha, h1, h2, ← upd_finalize_of_active .executed ho ha]
    exact ⟨_, _, _, _, _, _, _, _, _, rfl⟩
  · have hf : ∀ o, w.orders[id]? = some o → o.status ≠ .active := fun o ho ha => hact ⟨o, ho, ha⟩
    rw [execute_noop hf, upd_finalize_of_final _ hf]
    exact ⟨_, _, _, _, _, _, _, _, _, rfl⟩

theorem cancel_shape (w : World) (id : Nat) :
    ∃ x ss ls br sr, cancel w id =
      { w with wallet := x, stopSum := ss, limitSum := ls, buyRows := br, sellRows := sr,
               orders := upd w.orders id (Order.finalize .canceled) } := by
  fun_cases cancel w id
  · exact ⟨_, _, _, _, _, by rw [upd_finalize_of_final _ (fun o ho => by rw [‹w.orders[id]? = none›] at ho; cases ho)]⟩
  · rename_i o ho hf
    exact ⟨_, _, _, _, _, by rw [upd_finalize_of_final _ (fun x hx => by rw [ho] at hx; cases hx; exact hf)]⟩
  all_goals rw [← upd_finalize_of_active .canceled ‹_› (Decidable.of_not_not ‹_›)]
  · exact ⟨_, _, _, _, _, rfl⟩
  · exact ⟨_, _, _, _, _, rfl⟩
  · exact ⟨_, _, _, _, _, rfl⟩
  · rename_i src; simp only [src, releaseSell_eq]; exact ⟨_, _, _, _, _, rfl⟩
  · rw [releaseSell_eq]; exact ⟨_, _, _, _, _, rfl⟩

theorem execute_orders_active (w : World) (id : Nat) :
    (execute w id).orders = upd w.orders id (Order.finalize .executed) ∧ (execute w id).active = w.active := by
  obtain ⟨_, _, _, _, _, _, _, _, _, h⟩ := execute_shape w id
  rw [h]; exact ⟨rfl, rfl⟩
theorem execute_orders (w : World) (id : Nat) : (execute w id).orders = upd w.orders id (Order.finalize .executed) :=
  (execute_orders_active w id).1
theorem execute_active (w : World) (id : Nat) : (execute w id).active = w.active := (execute_orders_active w id).2

theorem cancel_orders_active (w : World) (id : Nat) :
    (cancel w id).orders = upd w.orders id (Order.finalize .canceled) ∧ (cancel w id).active = w.active := by
  obtain ⟨_, _, _, _, _, h⟩ := cancel_shape w id
  rw [h]; exact ⟨rfl, rfl⟩
theorem cancel_orders (w : World) (id : Nat) : (cancel w id).orders = upd w.orders id (Order.finalize .canceled) :=
  (cancel_orders_active w id).1
theorem cancel_active (w : World) (id : Nat) : (cancel w id).active = w.active := (cancel_orders_active w id).2

theorem cancel_not_active (w : World) {id : Nat} (hid : id < w.orders.length) :
    ((cancel w id).orders.getD id default).status ≠ .active := by
  rw [cancel_orders, listGetD_upd_same _ _ _ _ hid]
  exact Order.finalize_not_active (fun h => OrderStatus.noConfusion h) _

theorem execute_sums {w : World} {id : Nat} {o : Order} (ho : w.orders[id]? = some o) (ha : o.status = .active)
    (hk : w.kind = .spot) :
    (execute w id).kind = w.kind ∧ (execute w id).base.length = w.base.length ∧
      (execute w id).stopSum = (releaseSell w o).stopSum ∧ (execute w id).limitSum = (releaseSell w o).limitSum := by
  obtain ⟨_, _, _, _, h⟩ := fillOnly_onExecuted (exchangeOnExecution (addExecutedOrder (setStatus w id .executed) o) o) o
  rw [execute_eq ho ha, h]
  unfold exchangeOnExecution
  rw [show (addExecutedOrder (setStatus w id .executed) o).kind = .spot from hk]
  simp only [releaseSell_eq]
  split <;> exact ⟨rfl, length_upd _ _ _, rfl, rfl⟩

theorem cancel_sums {w : World} {id : Nat} {o : Order} (ho : w.orders[id]? = some o) (ha : o.status = .active)
    (hk : w.kind = .spot) :
    (cancel w id).kind = w.kind ∧ (cancel w id).base.length = w.base.length ∧
      (cancel w id).stopSum = (releaseSell w o).stopSum ∧ (cancel w id).limitSum = (releaseSell w o).limitSum := by
  rw [cancel_eq ho ha, hk]
  simp only [releaseSell_eq]
  split <;> exact ⟨hk, rfl, rfl, rfl⟩

end Jesse.Acc

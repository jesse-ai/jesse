/-
  Proofs/Lemmas/IndSpec.lean — the combinators of Jesse/Ind/Core.lean build whole series, Spec/Ind.lean defines
  "the value at row `i`".  Here each combinator is read at a row: row `i` of `pmap` / `trailing` sees
  `Spec.Ind.window p i xs`, row `i` of a `scanState` is the step applied to `stateAfter` of the rows before it.
  C15 is proved through these two readings.
-/
import Proofs.Lemmas.Num
import Proofs.Lemmas.Pick
import Proofs.Lemmas.Causal
import Jesse.Ind.MA
import Jesse.Ind.Simple
import Jesse.Ind.Osc
import Spec.Ind

namespace Jesse.Ind
open Spec.Ind

theorem pmap_getElem? {α β} (h : List α → β) (xs : List α) (i : Nat) (hi : i < xs.length) :
    (pmap h xs)[i]? = some (h (xs.take (i + 1))) := by
  unfold pmap
  rw [List.getElem?_map, List.getElem?_range hi]; rfl

theorem mem_pmap {α β} (h : List α → β) (xs : List α) (y : β) (hy : y ∈ pmap h xs) :
    ∃ i, i < xs.length ∧ y = h (xs.take (i + 1)) := by
  unfold pmap at hy
  obtain ⟨i, hi, rfl⟩ := List.mem_map.mp hy
  exact ⟨i, List.mem_range.1 hi, rfl⟩

theorem lastN_take_eq_window {α} (p i : Nat) (xs : List α) (hi : i < xs.length) (hp : p ≤ i + 1) :
    lastN p (xs.take (i + 1)) = window p i xs := by
  unfold lastN window
  rw [List.length_take, List.drop_take, Nat.min_eq_left hi, Nat.sub_sub_self hp]

theorem trailing_getElem? {α β} (p : Nat) (g : List α → Option β) (xs : List α) (i : Nat) (hi : i < xs.length) :
    (trailing p g xs)[i]? = some (if i + 1 < p then none else g (window p i xs)) := by
  unfold trailing
  rw [pmap_getElem? _ _ _ hi, List.length_take, Nat.min_eq_left hi]
  by_cases hp : i + 1 < p
  · rw [if_pos hp, if_pos hp]
  · rw [if_neg hp, if_neg hp, lastN_take_eq_window p i xs hi (Nat.le_of_not_lt hp)]

theorem trailing_getElem?_of_le {α β} (p : Nat) (g : List α → Option β) (xs : List α) (i : Nat)
    (hi : i < xs.length) (hpi : p ≤ i + 1) : (trailing p g xs)[i]? = some (g (window p i xs)) := by
  rw [trailing_getElem? p g xs i hi, if_neg (Nat.not_lt.2 hpi)]

theorem length_window {α} (p i : Nat) (xs : List α) (hi : i < xs.length) (hp : p ≤ i + 1) :
    (window p i xs).length = p := by
  unfold window
  rw [List.length_take, List.length_drop]
  exact Nat.min_eq_left (Nat.le_sub_of_add_le (by rw [Nat.add_sub_cancel' hp]; exact hi))

theorem getLast?_window {α} (p i : Nat) (xs : List α) (hi : i < xs.length) (hp : 0 < p) (hpi : p ≤ i + 1) :
    (window p i xs).getLast? = some xs[i] := by
  rw [List.getLast?_eq_getElem?, length_window p i xs hi hpi]
  unfold window
  rw [List.getElem?_take, if_pos (Nat.sub_lt hp Nat.one_pos), List.getElem?_drop,
    ← Nat.add_sub_assoc hp, Nat.sub_add_cancel hpi, Nat.add_sub_cancel, List.getElem?_eq_getElem hi]

theorem mem_of_mem_window {α} (p i : Nat) (xs : List α) (k : α) (h : k ∈ window p i xs) : k ∈ xs := by
  unfold window at h
  exact List.mem_of_mem_drop (List.mem_of_mem_take h)

theorem of_trailing_some {α β} {p : Nat} {g : List α → Option β} {xs : List α} {i : Nat} {v : β}
    (h : (trailing p g xs)[i]? = some (some v)) : i < xs.length ∧ p ≤ i + 1 ∧ g (window p i xs) = some v := by
  have hi : i < xs.length := length_trailing p g xs ▸ (List.getElem?_eq_some_iff.1 h).1
  rw [trailing_getElem? p g xs i hi] at h
  split at h
  · cases h
  · exact ⟨hi, Nat.le_of_not_lt ‹_›, Option.some.inj h⟩

theorem trailing_getElem?_of_agree {α β} (p : Nat) (g G : List α → β) (xs : List α) (i : Nat) (hi : i < xs.length)
    (h : ∀ w, w.length = p → g w = G w) :
    (trailing p (fun w => some (g w)) xs)[i]? = some (if i + 1 < p then none else some (G (window p i xs))) := by
  rw [trailing_getElem? _ _ _ _ hi]
  exact congrArg some (if_ctx_congr Iff.rfl (fun _ => rfl) fun hp =>
    congrArg some (h _ (length_window p i xs hi (Nat.le_of_not_lt hp))))

theorem back_take {α} (k i : Nat) (xs : List α) (hk : k ≤ i) (hi : i < xs.length) :
    back k (xs.take (i + 1)) = xs[i - k]? := by
  unfold back
  rw [List.length_take, Nat.min_eq_left hi, if_pos (Nat.lt_succ_of_le hk), List.getElem?_take, Nat.succ_sub_one,
    if_pos (Nat.lt_succ_of_le (Nat.sub_le i k))]

theorem back_mem {α} (k : Nat) (pre : List α) (x : α) (h : back k pre = some x) : x ∈ pre := by
  unfold back at h
  split at h
  · exact List.mem_of_getElem? h
  · cases h

/-- the shape of `roc` and `mom` -/
theorem lag_getElem? {α β} (p : Nat) (F : Option α → Option α → Option β) (xs : List α) (i : Nat) (hi : i < xs.length) :
    (pmap (fun pre => if pre.length ≤ p then none else F (back 0 pre) (back p pre)) xs)[i]?
      = some (if i < p then none else F xs[i]? xs[i - p]?) := by
  rw [pmap_getElem? _ _ _ hi, List.length_take, Nat.min_eq_left hi]
  by_cases h : i < p
  · rw [if_pos h, if_pos (show i.succ ≤ p from h)]
  · rw [if_neg h, if_neg (show ¬i.succ ≤ p from h), back_take 0 i xs (Nat.zero_le i) hi,
      back_take p i xs (Nat.le_of_not_lt h) hi]
    rfl

theorem sum_cons (x : Rat) (w : List Rat) : sum (x :: w) = x + sum w := rfl

theorem sum_eq_listSum (w : List Rat) : Jesse.Ind.sum w = w.sum := rfl

theorem sum_nonneg_of (l : List Rat) (h : ∀ x ∈ l, 0 ≤ x) : 0 ≤ Jesse.Ind.sum l :=
  sum_eq_listSum l ▸ List.sum_nonneg h

theorem sum_map_div (l : List Rat) (s : Rat) : sum (l.map (· / s)) = sum l / s := by
  induction l with
  | nil => simp [sum]
  | cons x xs ih => rw [List.map_cons, sum_cons, sum_cons, ih, add_div]

theorem dot_replicate (w : List Rat) (c : Rat) (n : Nat) (h : w.length ≤ n) :
    dot w (List.replicate n c) = c * w.sum := by
  induction w generalizing n with
  | nil => cases n <;> exact (mul_zero c).symm
  | cons x r ih =>
    cases n with
    | zero => exact absurd h (Nat.not_succ_le_zero _)
    | succ n => rw [List.replicate_succ, dot, List.sum_cons, ih n (Nat.le_of_succ_le_succ h), mul_add, mul_comm]

theorem dot_map_mul (c : Rat) (w W : List Rat) : dot (w.map (c * ·)) W = c * dot w W := by
  induction w generalizing W with
  | nil => exact (mul_zero c).symm
  | cons x r ih =>
    cases W with
    | nil => exact (mul_zero c).symm
    | cons y ys => rw [List.map_cons, dot, dot, ih, mul_add, mul_assoc]

theorem arange1_eq (p : Nat) : arange1 p = (List.range' 1 p).map (fun i : Nat => (i : Rat)) := by
  rw [arange1, List.range'_eq_map_range, List.map_map]
  exact List.map_congr_left fun i _ => by rw [Function.comp_apply, Nat.add_comm]

theorem dot_range' (w : List Rat) (k n : Nat) (h : w.length ≤ n) :
    dot w ((List.range' k n).map (fun i : Nat => (i : Rat))) = linWeighted k w := by
  induction w generalizing k n with
  | nil => cases n <;> rfl
  | cons x r ih =>
    cases n with
    | zero => exact absurd h (Nat.not_succ_le_zero _)
    | succ n =>
      rw [List.range'_succ, List.map_cons, dot, linWeighted, ih (k + 1) n (Nat.le_of_succ_le_succ h), mul_comm]

theorem sum_range' (k n : Nat) :
    sum ((List.range' k n).map (fun i : Nat => (i : Rat))) = (n : Rat) * k + (n : Rat) * ((n : Rat) - 1) / 2 := by
  induction n generalizing k with
  | zero => simp [sum]
  | succ n ih => rw [List.range'_succ, List.map_cons, sum_cons, ih]; push_cast; ring

theorem sum_arange1 (p : Nat) : Jesse.Ind.sum (arange1 p) = (p : Rat) * ((p : Rat) + 1) / 2 := by
  rw [arange1_eq, sum_range']; push_cast; ring

theorem sum_sq_dev (w : List Rat) (mu : Rat) :
    sum (w.map (fun x => (x - mu) * (x - mu))) = sum (w.map (fun x => x * x)) - 2 * mu * sum w + (w.length : Rat) * mu * mu := by
  induction w with
  | nil => simp [sum]
  | cons x xs ih => rw [List.map_cons, List.map_cons, sum_cons, sum_cons, sum_cons, ih, List.length_cons]; push_cast; ring

theorem shortcut_is_popVar (p : Nat) (hp : 0 < p) (w : List Rat) (hw : w.length = p) :
    meanOf p (w.map (fun x => x * x)) - meanOf p w * meanOf p w = popVar p w := by
  have hp' : (p : Rat) ≠ 0 := by exact_mod_cast (Nat.pos_iff_ne_zero.mp hp)
  unfold popVar
  rw [sum_sq_dev w (meanOf p w), hw]
  unfold meanOf
  field_simp
  ring

theorem popVar_nonneg (p : Nat) (w : List Rat) : 0 ≤ popVar p w :=
  div_nonneg (sum_nonneg_of _ fun y hy => by obtain ⟨x, _, rfl⟩ := List.mem_map.1 hy; exact mul_self_nonneg _)
    (Nat.cast_nonneg p)

def stateAfter {σ α β} (step : σ → α → σ × β) (s : σ) (xs : List α) : σ :=
  xs.foldl (fun s x => (step s x).1) s

theorem stateAfter_take_succ {σ α β} (step : σ → α → σ × β) (s : σ) (xs : List α) (k : Nat) (x : α)
    (hx : xs[k]? = some x) :
    stateAfter step s (xs.take (k + 1)) = (step (stateAfter step s (xs.take k)) x).1 := by
  unfold stateAfter
  rw [List.take_add_one, hx, List.foldl_append]
  rfl

theorem scanState_getElem? {σ α β} (step : σ → α → σ × β) (s : σ) (xs : List α) (i : Nat) :
    (scanState step s xs)[i]? = xs[i]?.map (fun x => (step (stateAfter step s (xs.take i)) x).2) := by
  induction xs generalizing s i with
  | nil => rfl
  | cons y ys ih =>
    cases i with
    | zero => rfl
    | succ i => exact ih _ i

theorem stateAfter_inv {σ α β} (step : σ → α → σ × β) (s : σ) (xs : List α) (Inv : Nat → σ → Prop) (h0 : Inv 0 s)
    (hstep : ∀ k s x, xs[k]? = some x → Inv k s → Inv (k + 1) (step s x).1) (k : Nat) (hk : k ≤ xs.length) :
    Inv k (stateAfter step s (xs.take k)) := by
  induction k with
  | zero => exact h0
  | succ k ih =>
    rw [stateAfter_take_succ step s xs k xs[k] (List.getElem?_eq_getElem hk)]
    exact hstep k _ _ (List.getElem?_eq_getElem hk) (ih (Nat.le_of_succ_le hk))

theorem scanState_feedback {σ α β} (step : σ → α → σ × β) (enc : β → σ) (h : ∀ s x, (step s x).1 = enc (step s x).2)
    (s : σ) (xs : List α) (i : Nat) (y : β) (x : α)
    (hy : (scanState step s xs)[i]? = some y) (hx : xs[i + 1]? = some x) :
    (scanState step s xs)[i + 1]? = some (step (enc y) x).2 := by
  rw [scanState_getElem?] at hy ⊢
  obtain ⟨z, hz, rfl⟩ := Option.map_eq_some_iff.1 hy
  rw [hx, stateAfter_take_succ step s xs i z hz, h]
  rfl

theorem scanState_forall {σ α β} (step : σ → α → σ × β) (Inv : σ → Prop) (Q : α → Prop) (P : β → Prop)
    (hstep : ∀ s x, Inv s → Q x → Inv (step s x).1 ∧ P (step s x).2)
    (s : σ) (hs : Inv s) (xs : List α) (hq : ∀ x ∈ xs, Q x) : ∀ y ∈ scanState step s xs, P y := by
  induction xs generalizing s with
  | nil => intro y hy; simp [scanState] at hy
  | cons x xs ih =>
    intro y hy
    have h1 := hstep s x hs (hq x List.mem_cons_self)
    simp only [scanState, List.mem_cons] at hy
    rcases hy with h | h
    · rw [h]; exact h1.2
    · exact ih _ h1.1 (fun z hz => hq z (List.mem_cons_of_mem _ hz)) y h

theorem scanState_map_rel {σ σ' α α' β β'} (step : σ → α → σ × β) (step' : σ' → α' → σ' × β')
    (R : σ → σ' → Prop) (f : α → α') (k : β → β')
    (h : ∀ s s' x, R s s' → R (step s x).1 (step' s' (f x)).1 ∧ (step' s' (f x)).2 = k (step s x).2)
    (s : σ) (s' : σ') (hs : R s s') (xs : List α) :
    scanState step' s' (xs.map f) = (scanState step s xs).map k := by
  induction xs generalizing s s' with
  | nil => rfl
  | cons x xs ih =>
    obtain ⟨h1, h2⟩ := h s s' x hs
    simp only [List.map_cons, scanState, h2]
    rw [ih _ _ h1]

section Seeded
variable (p : Nat) (upd : Rat → Rat → Rat) (xs : List Rat)

theorem seeded_state (k : Nat) (hk : k ≤ xs.length) :
    (stateAfter (seededStep p upd) (0, 0) (xs.take k)).1 = k
      ∧ (k < p → (stateAfter (seededStep p upd) (0, 0) (xs.take k)).2 = (xs.take k).sum) := by
  refine stateAfter_inv (seededStep p upd) (0, 0) xs (fun k s => s.1 = k ∧ (k < p → s.2 = (xs.take k).sum))
    ⟨rfl, fun _ => rfl⟩ (fun k s x hx ⟨h1, h2⟩ => ?_) k hk
  subst h1
  fun_cases seededStep p upd s x
  · exact ⟨rfl, fun _ => by rw [h2 (by omega), List.take_add_one, hx, List.sum_append]; simp⟩
  · exact ⟨rfl, fun h => by omega⟩
  · exact ⟨rfl, fun h => by omega⟩

theorem seeded_getElem? (i : Nat) (x : Rat) (hx : xs[i]? = some x) :
    (seeded p upd xs)[i]? = some (seededStep p upd (stateAfter (seededStep p upd) (0, 0) (xs.take i)) x).2 := by
  unfold seeded
  rw [scanState_getElem?, hx]; rfl

theorem seeded_none (i : Nat) (hi : i < xs.length) (h : i + 1 < p) :
    (seeded p upd xs)[i]? = some none := by
  rw [seeded_getElem? p upd xs i _ (List.getElem?_eq_getElem hi), seededStep, (seeded_state p upd xs i hi.le).1, if_pos h]

theorem seeded_seed (hp : 0 < p) (h : p ≤ xs.length) :
    (seeded p upd xs)[p - 1]? = some (some (mean (xs.take p))) := by
  obtain ⟨q, rfl⟩ : ∃ q, p = q + 1 := ⟨p - 1, (Nat.sub_add_cancel hp).symm⟩
  have hi : q < xs.length := h
  obtain ⟨hc, hs⟩ := seeded_state (q + 1) upd xs q hi.le
  rw [Nat.add_sub_cancel, seeded_getElem? _ upd xs q _ (List.getElem?_eq_getElem hi), seededStep, hc,
    if_neg (Nat.lt_irrefl _), if_pos rfl, hs (Nat.lt_succ_self q), mean, List.length_take, Nat.min_eq_left h,
    List.take_add_one, List.getElem?_eq_getElem hi, List.sum_append]
  simp

theorem seededStep_snd_of_ge (s : Nat × Rat) (x : Rat) (h : p ≤ s.1 + 1) :
    (seededStep p upd s x).2 = some (seededStep p upd s x).1.2 := by
  fun_cases seededStep p upd s x
  · exact absurd ‹_› (Nat.not_lt.2 h)
  · rfl
  · rfl

theorem seeded_step (i : Nat) (prev x : Rat) (hp : 0 < p) (hpi : p ≤ i) (hprev : (seeded p upd xs)[i - 1]? = some (some prev)) (hx : xs[i]? = some x) :
    (seeded p upd xs)[i]? = some (some (upd prev x)) := by
  obtain ⟨j, rfl⟩ : ∃ j, i = j + 1 := ⟨i - 1, (Nat.sub_add_cancel (Nat.le_trans hp hpi)).symm⟩
  have hi := (List.getElem?_eq_some_iff.1 hx).1
  have hj : j < xs.length := Nat.lt_of_succ_lt hi
  have hy := List.getElem?_eq_getElem hj
  -- row `j` emits the value that the state carries into row `j+1`
  rw [Nat.add_sub_cancel, seeded_getElem? p upd xs j _ hy, seededStep_snd_of_ge p upd _ _
    (by rw [(seeded_state p upd xs j hj.le).1]; exact hpi), ← stateAfter_take_succ _ _ xs j _ hy] at hprev
  rw [seeded_getElem? p upd xs _ x hx, seededStep, (seeded_state p upd xs _ hi.le).1,
    if_neg (Nat.not_lt.2 (Nat.le_succ_of_le hpi)), if_neg (Nat.ne_of_gt (Nat.lt_succ_of_le hpi)),
    Option.some.inj (Option.some.inj hprev)]

end Seeded

theorem seeded_hom (p : Nat) (upd : Rat → Rat → Rat) (c : Rat)
    (hu : ∀ a b, upd (c * a) (c * b) = c * upd a b) (xs : List Rat) :
    seeded p upd (xs.map (c * ·)) = (seeded p upd xs).map (Option.map (c * ·)) := by
  refine scanState_map_rel (seededStep p upd) (seededStep p upd) (fun s s' => s'.1 = s.1 ∧ s'.2 = c * s.2) _ _
    (fun s s' x ⟨h1, h2⟩ => ?_) _ _ ⟨rfl, (mul_zero c).symm⟩ xs
  have hd : (c * s.2 + c * x) / (p : Rat) = c * ((s.2 + x) / (p : Rat)) := by rw [← mul_add, mul_div_assoc]
  rw [seededStep, h1, h2]
  fun_cases seededStep p upd s x
  · next h => rw [if_pos h]; exact ⟨⟨rfl, (mul_add c s.2 x).symm⟩, rfl⟩
  · next h h' => rw [if_neg h, if_pos h']; exact ⟨⟨rfl, hd⟩, congrArg some hd⟩
  · next h h' => rw [if_neg h, if_neg h']; exact ⟨⟨rfl, hu _ _⟩, congrArg some (hu _ _)⟩

theorem seeded_nonneg (p : Nat) (upd : Rat → Rat → Rat) (hupd : ∀ a x, 0 ≤ a → 0 ≤ x → 0 ≤ upd a x)
    (xs : List Rat) (hx : ∀ x ∈ xs, 0 ≤ x) : ∀ a ∈ seeded p upd xs, ∀ v, a = some v → 0 ≤ v := by
  refine scanState_forall (seededStep p upd) (fun s => 0 ≤ s.2) (fun t => 0 ≤ t)
    (fun a => ∀ v, a = some v → 0 ≤ v) (fun s t hs ht => ?_) (0, 0) (le_refl _) xs hx
  have h1 : 0 ≤ (s.2 + t) / (p : Rat) := div_nonneg (add_nonneg hs ht) (Nat.cast_nonneg p)
  have h2 := hupd s.2 t hs ht
  fun_cases seededStep p upd s t
  · exact ⟨add_nonneg hs ht, fun v h => by cases h⟩
  · exact ⟨h1, fun v h => by cases h; exact h1⟩
  · exact ⟨h2, fun v h => by cases h; exact h2⟩

/-- The model's `rmaStep p` is `smoothStep (1/p)` by unfolding (`C15.rma_seed_decay` rests on it). -/
def smoothStep (a : Rat) (prev x : Rat) : Rat × Rat := (emaUpd a prev x, emaUpd a prev x)

/-- the model's `maxL` nests to the right (`maxR x (maxL (y :: r))`); this is the left-nested step `pick_spec` asks for -/
theorem maxL_cons_cons (m x : Rat) (xs : List Rat) : maxL (m :: x :: xs) = maxL (maxR m x :: xs) := by
  cases xs with
  | nil => rfl
  | cons z zs => simp only [maxL, maxR_eq_max, max_assoc]

theorem minL_cons_cons (m x : Rat) (xs : List Rat) : minL (m :: x :: xs) = minL (minR m x :: xs) := by
  cases xs with
  | nil => rfl
  | cons z zs => simp only [minL, minR_eq_min, min_assoc]

theorem isMax_maxL (w : List Rat) (h : w ≠ []) : IsMax (maxL w) w := by
  cases w with
  | nil => exact absurd rfl h
  | cons m l =>
    exact pick_spec (r := (· ≤ ·)) le_refl le_trans maxR_pick (F := fun m l => maxL (m :: l))
      (fun _ => rfl) maxL_cons_cons l m

theorem isMin_minL (w : List Rat) (h : w ≠ []) : IsMin (minL w) w := by
  cases w with
  | nil => exact absurd rfl h
  | cons m l =>
    exact pick_spec (r := (· ≥ ·)) le_refl (fun h1 h2 => le_trans h2 h1) minR_pick (F := fun m l => minL (m :: l))
      (fun _ => rfl) minL_cons_cons l m

theorem le_maxL (w : List Rat) (y : Rat) (hy : y ∈ w) : y ≤ maxL w := (isMax_maxL w (List.ne_nil_of_mem hy)).2 y hy

theorem minL_le (w : List Rat) (y : Rat) (hy : y ∈ w) : minL w ≤ y := (isMin_minL w (List.ne_nil_of_mem hy)).2 y hy

theorem low_high_bounds (w : List Candle) (k : Candle) (hk : k ∈ w) : minL (lows w) ≤ k.l ∧ k.h ≤ maxL (highs w) :=
  ⟨minL_le _ _ (List.mem_map.2 ⟨k, hk, rfl⟩), le_maxL _ _ (List.mem_map.2 ⟨k, hk, rfl⟩)⟩

theorem close_in_window (w : List Candle) (hv : ∀ k ∈ w, k.l ≤ k.c ∧ k.c ≤ k.h) (k : Candle) (hk : w.getLast? = some k) :
    minL (lows w) ≤ k.c ∧ k.c ≤ maxL (highs w) :=
  have hkm := List.mem_of_getLast? hk
  ⟨(low_high_bounds w k hkm).1.trans (hv k hkm).1, (hv k hkm).2.trans (low_high_bounds w k hkm).2⟩

theorem pmap_map {α β γ} (h : List β → γ) (f : α → β) (xs : List α) :
    pmap h (xs.map f) = pmap (fun pre => h (pre.map f)) xs := by
  unfold pmap
  rw [List.length_map]
  apply List.map_congr_left
  intro i _
  show h (List.take (i + 1) (List.map f xs)) = h (List.map f (List.take (i + 1) xs))
  rw [List.map_take]

theorem pmap_comp_out {α β γ} (k : β → γ) (h : List α → β) (xs : List α) :
    pmap (fun pre => k (h pre)) xs = (pmap h xs).map k := by
  unfold pmap
  rw [List.map_map]; rfl

theorem trailing_hom (p : Nat) (g : List Rat → Option Rat) (c : Rat)
    (hg : ∀ w, g (w.map (c * ·)) = (g w).map (c * ·)) (xs : List Rat) :
    trailing p g (xs.map (c * ·)) = (trailing p g xs).map (Option.map (c * ·)) := by
  unfold trailing
  rw [pmap_map, ← pmap_comp_out]
  congr 1
  funext pre
  rw [List.length_map, lastN_map, hg]
  split <;> rfl

/-- the ratio behind every bounded oscillator: a part of a positive whole -/
theorem div_mem_unit {a d : Rat} (h0 : 0 ≤ a) (h1 : a ≤ d) (hd : 0 < d) : 0 ≤ a / d ∧ a / d ≤ 1 :=
  ⟨div_nonneg h0 hd.le, (div_le_one hd).2 h1⟩

theorem ite_nonneg_zero {c : Prop} [Decidable c] {a : Rat} (h : c → 0 ≤ a) : 0 ≤ if c then a else 0 := by
  split
  · exact h ‹_›
  · exact le_refl _

theorem gainOf_nonneg (ch : Rat) : 0 ≤ gainOf ch := ite_nonneg_zero le_of_lt

theorem lossOf_nonneg (ch : Rat) : 0 ≤ lossOf ch := ite_nonneg_zero fun h => neg_nonneg.2 (le_of_lt h)

theorem wilderUpd_nonneg (p : Nat) (hp : 0 < p) (a x : Rat) (ha : 0 ≤ a) (hx : 0 ≤ x) : 0 ≤ wilderUpd p a x :=
  div_nonneg (add_nonneg (mul_nonneg ha (sub_nonneg.2 (by exact_mod_cast hp))) hx) (Nat.cast_nonneg p)

theorem wilderUpd_eq_expStep (p : Nat) (hp : 0 < p) (prev x : Rat) : wilderUpd p prev x = expStep (1 / (p : Rat)) prev x := by
  have : (p : Rat) ≠ 0 := Nat.cast_ne_zero.2 (Nat.ne_of_gt hp)
  unfold wilderUpd expStep
  field_simp
  ring

theorem rsiVal_range (g l : Rat) (hg : 0 ≤ g) (hl : 0 ≤ l) : 0 ≤ rsiVal g l ∧ rsiVal g l ≤ 100 := by
  fun_cases rsiVal g l
  · exact ⟨by norm_num, le_refl _⟩
  · have hd : 1 ≤ 1 + g / l := le_add_of_nonneg_right (div_nonneg hg hl)
    obtain ⟨h0, h1⟩ := div_mem_unit zero_le_one hd (lt_of_lt_of_le zero_lt_one hd)
    rw [div_eq_mul_one_div]
    exact ⟨sub_nonneg.2 (mul_le_of_le_one_right (by norm_num) h1), sub_le_self _ (mul_nonneg (by norm_num) h0)⟩

/-- `mfiVal` and `rsiVal` have the same body -/
theorem mfiVal_range (a b : Rat) (ha : 0 ≤ a) (hb : 0 ≤ b) : 0 ≤ mfiVal a b ∧ mfiVal a b ≤ 100 := rsiVal_range a b ha hb

theorem mfiFlow_nonneg (pre : List Candle) (hv : ∀ k ∈ pre, 0 ≤ tpOf k ∧ 0 ≤ k.v) :
    0 ≤ (mfiFlow pre).1 ∧ 0 ≤ (mfiFlow pre).2 := by
  fun_cases mfiFlow pre
  · next k _ _ h0 =>
    have hk := hv k (back_mem 0 pre k h0)
    exact ⟨ite_nonneg_zero fun _ => mul_nonneg hk.1 hk.2, ite_nonneg_zero fun _ => mul_nonneg hk.1 hk.2⟩
  · exact ⟨le_refl _, le_refl _⟩

/-- `mid ± c·dev`, the shape of the Bollinger and Keltner bands -/
theorem band_ordered (mid dev : Ser) (cu cl : Rat) (hcu : 0 ≤ cu) (hcl : 0 ≤ cl) (i : Nat)
    (hdev : ∀ d, dev[i]? = some (some d) → 0 ≤ d) (u m l : Rat)
    (hu : (List.zipWith oadd mid (dev.map (oscale cu)))[i]? = some (some u)) (hm : mid[i]? = some (some m))
    (hl : (List.zipWith osub mid (dev.map (oscale cl)))[i]? = some (some l)) : l ≤ m ∧ m ≤ u := by
  rw [List.getElem?_zipWith, hm, List.getElem?_map] at hu hl
  rcases hd : dev[i]? with _ | _ | d
  · rw [hd] at hu
    cases hu
  · rw [hd] at hu
    cases hu
  rw [hd] at hu hl
  cases hu
  cases hl
  have := hdev d hd
  exact ⟨sub_le_self m (mul_nonneg hcl this), le_add_of_nonneg_right (mul_nonneg hcu this)⟩

end Jesse.Ind

/-
  Proofs/C04.lean — spot balances equal a cash-account model; no overspending or overselling.
  Statements over the accounts model (Jesse/Accounts.lean, tied to the real classes by
  correspondence), for a spot exchange trading one symbol (index 0).  The invariant `SumsInv` (the running sums of
  resting sells equal the sums over the active orders) carries the rejection rule through every history.
-/
import Jesse.Accounts
import Proofs.Lemmas.Accounts
import Proofs.Lemmas.Num

namespace C04
open Jesse Jesse.Acc

def Single (w : World) : Prop :=
  w.kind = .spot ∧ w.base.length = 1 ∧ w.stopSum.length = 1 ∧ w.limitSum.length = 1

theorem ite_err_iff (c : Prop) [Decidable c] (a b : World) :
    (∃ w', (if c then (Except.error (Err.InsufficientBalance, a) : Except (Err × World) World) else .ok b)
        = .error (.InsufficientBalance, w')) ↔ c := by
  constructor
  · rintro ⟨w', h⟩
    by_cases hc : c
    · exact hc
    · rw [if_neg hc] at h; cases h
  · intro hc; exact ⟨a, by rw [if_pos hc]⟩

/-- REJECTION, buy side: a buy is rejected with InsufficientBalance exactly when its cost exceeds the
    free quote balance. -/
theorem reject_iff_buy (w : World) (hs : Single w) (type : OrderType) (q p : Rat) (ro : Bool) :
    (∃ w', submit w 0 .buy type q p ro = .error (.InsufficientBalance, w')) ↔ absR q * p > w.wallet := by
  rw [submit_spot_buy w hs.1, absR_absR, ite_err_iff]
  constructor <;> intro h <;> linarith

theorem buy_reserves (w w' : World) (hs : Single w) (type : OrderType) (q p : Rat) (ro : Bool)
    (h : submit w 0 .buy type q p ro = .ok w') :
    w' = register { w with wallet := w.wallet - absR q * p } (newOrder w 0 .buy type q p ro) ∧ 0 ≤ w'.wallet := by
  rw [submit_spot_buy w hs.1, absR_absR] at h
  split at h <;> cases h
  exact ⟨rfl, not_lt.mp ‹_›⟩

/-- A buy reserves qty × price of quote at submission (`buy_reserves`); cancelling it releases exactly that
    amount: the wallet returns to its earlier value. -/
theorem cancel_releases_exactly (w w' : World) (hs : Single w) (type : OrderType) (q p : Rat) (ro : Bool)
    (h : submit w 0 .buy type q p ro = .ok w') :
    (cancel w' w.orders.length).wallet = w.wallet := by
  obtain ⟨rfl, _⟩ := buy_reserves w w' hs type q p ro h
  unfold cancel
  rw [getElem?_register]
  simp only [register, newOrder, hs.1, ne_eq, not_true_eq_false, if_false, if_true, releaseSell_eq, setStatus,
    reduceCtorEq, absR_absR]
  ring

theorem buy_fill_effect (w : World) (hs : Single w) (o : Order) (hsym : o.sym = 0) (hbuy : o.side = .buy) :
    (exchangeOnExecution w o).wallet = w.wallet ∧
    getD (exchangeOnExecution w o).base 0 = getD w.base 0 + absR o.qty * (1 - w.fee) := by
  obtain ⟨hk, hb, _, _⟩ := hs
  simp only [exchangeOnExecution, hk, hbuy, if_true, hsym, releaseSell_eq]
  exact ⟨trivial, getD_upd_zero _ _ hb⟩

theorem sell_fill_effect (w : World) (hs : Single w) (o : Order) (hsym : o.sym = 0) (hsell : o.side = .sell)
    (hb0 : 0 ≤ getD w.base 0) :
    ∃ sold, sold = min (absR o.qty) (getD w.base 0) ∧
      (exchangeOnExecution w o).wallet = w.wallet + sold * o.price * (1 - w.fee) ∧
      getD (exchangeOnExecution w o).base 0 = getD w.base 0 - sold := by
  obtain ⟨hk, hb, _, _⟩ := hs
  have hsold : soldQty (releaseSell w o) o = min (absR o.qty) (getD w.base 0) := by
    rw [releaseSell_eq]
    unfold soldQty
    rw [hsym]
    by_cases hgt : absR o.qty > getD w.base 0
    · rw [if_pos hgt, min_eq_right (le_of_lt hgt), absR_eq_abs, abs_of_nonneg hb0]
    · rw [if_neg hgt, min_eq_left (not_lt.mp hgt)]
  have hns : ¬ o.side = .buy := by rw [hsell]; simp
  simp only [exchangeOnExecution, hk, hns, if_false, hsold, hsym]
  rw [releaseSell_eq]
  exact ⟨_, rfl, rfl, getD_upd_zero _ _ hb⟩

/-- NEVER NEGATIVE: from non-negative balances, a fee rate in [0,1] and a non-negative price, the
    exchange side of a fill leaves both balances non-negative. -/
theorem fill_never_negative (w : World) (hs : Single w) (o : Order) (hsym : o.sym = 0)
    (hq : 0 ≤ w.wallet) (hb : 0 ≤ getD w.base 0) (hf0 : 0 ≤ w.fee) (hf1 : w.fee ≤ 1) (hp : 0 ≤ o.price) :
    0 ≤ (exchangeOnExecution w o).wallet ∧ 0 ≤ getD (exchangeOnExecution w o).base 0 := by
  cases hside : o.side
  · obtain ⟨e1, e2⟩ := buy_fill_effect w hs o hsym hside
    rw [e1, e2]
    refine ⟨hq, ?_⟩
    have : 0 ≤ absR o.qty * (1 - w.fee) := mul_nonneg (absR_nonneg _) (by linarith)
    linarith
  · obtain ⟨sold, hsold, e1, e2⟩ := sell_fill_effect w hs o hsym hside hb
    rw [e1, e2]
    have hs0 : 0 ≤ sold := by rw [hsold]; exact le_min (absR_nonneg _) hb
    have hsb : sold ≤ getD w.base 0 := by rw [hsold]; exact min_le_right _ _
    refine ⟨?_, by linarith⟩
    have : 0 ≤ sold * o.price * (1 - w.fee) := by
      apply mul_nonneg (mul_nonneg hs0 hp); linarith
    linarith

def contrib (ty : OrderType) (o : Order) : Rat :=
  if o.status = .active ∧ o.side = .sell ∧ o.type = ty then absR o.qty else 0

def resting (os : List Order) (ty : OrderType) : Rat :=
  match os with
  | [] => 0
  | o :: rest => contrib ty o + resting rest ty

theorem resting_append (os : List Order) (o : Order) (ty : OrderType) :
    resting (os ++ [o]) ty = resting os ty + contrib ty o := by
  induction os with
  | nil => simp [resting]
  | cons x xs ih => simp only [List.cons_append, resting, ih]; ring

theorem resting_upd (os : List Order) (id : Nat) (o : Order) (f : Order → Order) (ty : OrderType)
    (h : os[id]? = some o) :
    resting (upd os id f) ty = resting os ty - contrib ty o + contrib ty (f o) := by
  induction os generalizing id with
  | nil => simp at h
  | cons x xs ih =>
    cases id with
    | zero =>
      simp only [List.getElem?_cons_zero, Option.some.injEq] at h
      subst h; simp only [upd, resting]; ring
    | succ k =>
      simp only [List.getElem?_cons_succ] at h
      simp only [upd, resting, ih k h]; ring

/-- the invariant: `stop_orders_sum` / `limit_orders_sum` of SpotExchange equal the sums over the active STOP / LIMIT sells -/
def SumsInv (w : World) : Prop :=
  Single w ∧ getD w.stopSum 0 = resting w.orders .stop ∧ getD w.limitSum 0 = resting w.orders .limit

theorem sums_init (b f : Rat) : SumsInv (Acc.init .spot b f 1 1) :=
  ⟨⟨rfl, rfl, rfl, rfl⟩, rfl, rfl⟩

theorem contrib_newOrder (ty : OrderType) (w : World) (sym : Nat) (side : Side) (type : OrderType) (q p : Rat) (ro : Bool) :
    contrib ty (newOrder w sym side type q p ro) = if side = .sell ∧ type = ty then absR q else 0 := by
  unfold contrib
  rw [absR_newOrder_qty]
  exact if_congr (and_iff_right rfl) rfl rfl

theorem sums_register (w1 : World) (o : Order) (hS : Single w1)
    (h1 : getD w1.stopSum 0 = resting w1.orders .stop + contrib .stop o)
    (h2 : getD w1.limitSum 0 = resting w1.orders .limit + contrib .limit o) : SumsInv (register w1 o) :=
  ⟨hS, h1.trans (resting_append _ _ _).symm, h2.trans (resting_append _ _ _).symm⟩

/-- accepted submissions keep the invariant -/
theorem submit_keeps_sums (w w' : World) (h : SumsInv w) (side : Side) (type : OrderType) (q p : Rat) (ro : Bool)
    (hsub : submit w 0 side type q p ro = .ok w') : SumsInv w' := by
  obtain ⟨⟨hk, hb, hst, hl⟩, hs, hli⟩ := h
  cases side
  · rw [submit_spot_buy w hk] at hsub
    split at hsub <;> cases hsub
    refine sums_register _ _ ⟨hk, hb, hst, hl⟩ ?_ ?_ <;> rw [contrib_newOrder, if_neg (fun h => nomatch h.1), add_zero]
    · exact hs
    · exact hli
  · rw [submit_spot_sell w hk, absR_neg, absR_absR] at hsub
    split at hsub <;> cases hsub
    cases type
    · refine sums_register _ _ ⟨hk, hb, hst, hl⟩ ?_ ?_ <;> rw [contrib_newOrder, if_neg (fun h => nomatch h.2), add_zero]
      · exact hs
      · exact hli
    · refine sums_register _ _ ⟨hk, hb, hst, (length_upd _ _ _).trans hl⟩ ?_ ?_
      · rw [contrib_newOrder, if_neg (fun h => nomatch h.2), add_zero]; exact hs
      · rw [contrib_newOrder, if_pos ⟨rfl, rfl⟩]
        exact (getD_upd_zero w.limitSum _ hl).trans (congrArg (· + absR q) hli)
    · refine sums_register _ _ ⟨hk, hb, (length_upd _ _ _).trans hst, hl⟩ ?_ ?_
      · rw [contrib_newOrder, if_pos ⟨rfl, rfl⟩]
        exact (getD_upd_zero w.stopSum _ hst).trans (congrArg (· + absR q) hs)
      · rw [contrib_newOrder, if_neg (fun h => nomatch h.2), add_zero]; exact hli

theorem releaseSell_sums (w : World) (o : Order) (hsym : o.sym = 0) (hst : w.stopSum.length = 1)
    (hl : w.limitSum.length = 1) (hact : o.status = .active) :
    getD (releaseSell w o).stopSum 0 = getD w.stopSum 0 - contrib .stop o ∧
    getD (releaseSell w o).limitSum 0 = getD w.limitSum 0 - contrib .limit o ∧
    (releaseSell w o).stopSum.length = 1 ∧ (releaseSell w o).limitSum.length = 1 := by
  rw [releaseSell_eq, hsym]
  unfold contrib
  simp only [hact, true_and]
  refine ⟨?stop, ?limit, ?stopLen, ?limitLen⟩
  case stop =>
    split
    · exact getD_upd_zero _ _ hst
    · exact (sub_zero _).symm
  case limit =>
    split
    · exact getD_upd_zero _ _ hl
    · exact (sub_zero _).symm
  case stopLen => split <;> simp only [length_upd, hst]
  case limitLen => split <;> simp only [length_upd, hl]

/-- the step that `execute` and `cancel` share: an active order of symbol 0 becomes final and leaves the sums -/
theorem sums_finalize {w w' : World} (h : SumsInv w) {id : Nat} {o : Order} (hg : w.orders[id]? = some o)
    (ha : o.status = .active) (hsym : o.sym = 0) {s : OrderStatus} (hs : s ≠ .active) (hk : w'.kind = w.kind)
    (hb : w'.base.length = w.base.length) (hss : w'.stopSum = (releaseSell w o).stopSum)
    (hls : w'.limitSum = (releaseSell w o).limitSum) (ho : w'.orders = upd w.orders id (Order.finalize s)) :
    SumsInv w' := by
  obtain ⟨⟨hk0, hb0, hst, hl⟩, hs0, hli⟩ := h
  obtain ⟨r1, r2, r3, r4⟩ := releaseSell_sums w o hsym hst hl ha
  have z : ∀ ty, contrib ty (Order.finalize s o) = 0 := fun ty =>
    if_neg (fun hh => Order.finalize_not_active hs o hh.1)
  refine ⟨⟨hk.trans hk0, hb.trans hb0, hss ▸ r3, hls ▸ r4⟩, ?_, ?_⟩
  · rw [hss, ho, r1, resting_upd _ _ _ _ _ hg, z, hs0, add_zero]
  · rw [hls, ho, r2, resting_upd _ _ _ _ _ hg, z, hli, add_zero]

/-- executions and cancellations (of any order, any number of times) keep the invariant -/
theorem execute_keeps_sums (w : World) (h : SumsInv w) (id : Nat)
    (hsym : ∀ o, w.orders[id]? = some o → o.sym = 0) : SumsInv (execute w id) := by
  by_cases hact : ∃ o, w.orders[id]? = some o ∧ o.status = .active
  · obtain ⟨o, hg, ha⟩ := hact
    obtain ⟨e1, e2, e3, e4⟩ := execute_sums hg ha h.1.1
    exact sums_finalize h hg ha (hsym o hg) (by decide) e1 e2 e3 e4 (execute_orders w id)
  · rw [execute_noop (fun o ho ha => hact ⟨o, ho, ha⟩)]; exact h

theorem cancel_keeps_sums (w : World) (h : SumsInv w) (id : Nat)
    (hsym : ∀ o, w.orders[id]? = some o → o.sym = 0) : SumsInv (cancel w id) := by
  by_cases hact : ∃ o, w.orders[id]? = some o ∧ o.status = .active
  · obtain ⟨o, hg, ha⟩ := hact
    obtain ⟨e1, e2, e3, e4⟩ := cancel_sums hg ha h.1.1
    exact sums_finalize h hg ha (hsym o hg) (by decide) e1 e2 e3 e4 (cancel_orders w id)
  · rw [cancel_noop (fun o ho ha => hact ⟨o, ho, ha⟩)]; exact h

/-- REJECTION after any history: under the invariant (which every sequence of accepted submissions,
    executions and cancellations preserves — the three theorems above) a sell is rejected exactly when
    it plus the RESTING sells of its kind (for a MARKET sell: the resting LIMIT sells) exceeds the base held —
    also after any number of earlier cancellations (the defect repaired by `fix:` 28f1a04c made the sums drift
    below the resting sells). -/
theorem reject_iff_resting (w : World) (h : SumsInv w) (type : OrderType) (q p : Rat) (ro : Bool) :
    (∃ w', submit w 0 .sell type q p ro = .error (.InsufficientBalance, w')) ↔
      (match type with
        | .market => absR q + resting w.orders .limit
        | .stop => resting w.orders .stop + absR q
        | .limit => resting w.orders .limit + absR q) > getD w.base 0 := by
  obtain ⟨⟨hk, _, hst, hl⟩, hs, hli⟩ := h
  rw [submit_spot_sell w hk, absR_neg, absR_absR, ite_err_iff, ← hs, ← hli]
  cases type
  · rfl
  · exact iff_of_eq (congrArg (· > _) (getD_upd_zero w.limitSum _ hl))
  · exact iff_of_eq (congrArg (· > _) (getD_upd_zero w.stopSum _ hst))

/-- FULL STATEMENT (false on the unchanged code): no short position ever exists and the position
    size equals the base balance after every operation.  Witness of the negation (known finding
    C04-F1): a take-profit LIMIT sell and a stop-loss STOP sell for the whole base are both accepted;
    the second one, executed after the first closed the position, OPENS a short position. -/
theorem short_position_witness :
    let w0 := setPrice (Acc.init .spot 10000 0 1 1) 0 100
    (match submit w0 0 .buy .market 3 100 false with
     | .ok w1 =>
       let w2 := execute w1 0
       (match submit w2 0 .sell .limit 3 103 true with
        | .ok w3 => (match submit w3 0 .sell .stop 3 97 true with
          | .ok w4 =>
            let w5 := execute (execute w4 1) 2
            decide ((getD w5.pos 0).qty = -3 ∧ getD w5.base 0 = 0)
          | _ => false)
        | _ => false)
     | _ => false) = true := by decide +kernel

end C04

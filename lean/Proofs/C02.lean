/-
  Proofs/C02.lean — resting orders fill exactly when and where the price reaches them
  (theorems over the matching part of the engine model: candidate selection, the path-order sort,
  the `while True` matching loop of both simulators, the MARKET-order queue), the validity of every minute candle
  the loops are handed over whole runs, and two concrete witnesses.
-/
import Proofs.Lemmas.Compose
import Proofs.Lemmas.ListFacts
import Proofs.C07.Aggregate

namespace C02
open Jesse Jesse.Eng Jesse.Gen MatchLemmas ComposeLemmas

variable {M : Type} [Inhabited M] (u : UserStrategy M)

/-- NO MISSED FILL, normal simulator: when the matching loop of a minute returns without an error,
    NO active order in the symbol's registry has its price inside what remains of the minute's candle — every
    order the remaining price path could still reach has been executed (for every strategy: the hooks
    that run on each fill may submit, cancel and replace orders arbitrarily). -/
theorem minute_no_resting_hit (fuel : Nat) (e : Engine M) (sym : Nat) (real : Candle) :
    let r := matchLoop u fuel e sym real (sel sym e real) (sel sym) false
    r.1.err = none → executingOrders r.1 sym r.2 = [] := by
  intro r herr
  -- the selection holds every candidate, so a walk over it that finds nothing means there is none
  have key : ∀ (e' : Engine M) (c : Candle), matchLoop.firstHit e' c (sel sym e' c) = none → executingOrders e' sym c = [] := by
    refine fun e' c hn => List.eq_nil_iff_forall_not_mem.mpr (fun id hid => ?_)
    obtain ⟨_, hact, hinc⟩ := (mem_executingOrders e' sym c id).mp hid
    exact (firstHit_eq_none e' c _).mp hn id ((mem_sel sym e' c id).mpr hid) hact hinc
  rcases matchLoop_returns u fuel e sym real (sel sym e real) (sel sym) false rfl herr with ⟨h1, h2⟩ | h
  · rw [show r = (e, real) from h1]; exact key _ _ h2
  · exact key _ _ h

/-- NO ORDER RESTING SINCE BEFORE THE MINUTE IS LEFT BEHIND (normal simulator, every strategy): when the matching
    loop of a minute with a valid candle `real` returns without an error, every order that existed when the
    minute started and is still active (and registered for the symbol) has its price OUTSIDE the minute's
    range — whatever the hooks fired by the fills did in between (submit, cancel, replace, modify). -/
theorem resting_order_never_left_in_range (fuel : Nat) (e : Engine M) (sym : Nat) (real : Candle) (hv : real.Valid) :
    let r := matchLoop u fuel e sym real (sel sym e real) (sel sym) false
    r.1.err = none →
      ∀ id, id < e.w.orders.length → (orderOf r.1 id).status = .active → id ∈ Acc.getD r.1.w.active sym →
        ¬ candleIncludesPrice real (orderOf e id).price := by
  intro r herr id hid hact hreg hreal
  have hext : FrameLemmas.EExt e r.1 := ((FrameLemmas.EExt.closed e).closedAt sym).matchLoop u fuel real _ _ _ (.refl e)
  have hkeep := loop_keep u e sym real fuel e real _ rfl hv (.refl e) (Keep.refl e sym real) rfl herr
  have hempty := minute_no_resting_hit u fuel e sym real herr
  have hcur := hkeep id hid hact hreg hreal
  have hp : (orderOf r.1 id).price = (orderOf e id).price := (hext.same id hid).1
  have : id ∈ executingOrders r.1 sym r.2 :=
    (mem_executingOrders r.1 sym r.2 id).mpr ⟨hreg, hact, by rw [hp]; exact hcur⟩
  rw [hempty] at this
  cases this

/-- FIRST ON THE PATH: with several candidates inside a (valid) candle, the order the sort puts first is
    the one the O-L-H-C / O-H-L-C price path reaches first: after the candle is split at its price, the
    price of EVERY other candidate still lies inside the remaining part — no candidate is jumped over. -/
theorem sorted_head_first_on_path (e : Engine M) (os : List Nat) (c a b : Candle) (id0 : Nat) (rest : List Nat)
    (hv : c.Valid) (hall : ∀ id ∈ os, candleIncludesPrice c (orderOf e id).price)
    (hsort : sortExecutionOrders e os [c] = id0 :: rest)
    (hsplit : splitCandle c (orderOf e id0).price = some (a, b)) :
    ∀ id ∈ os, candleIncludesPrice b (orderOf e id).price :=
  head_first_on_path e os c a b id0 rest hv hall hsort hsplit

/-- NO MISSED FILL for a matching loop that re-selects, after each fill, the active orders inside the chunk's aggregate
    candle `real` in registry order (`executingOrders e sym real`; the fast simulator's own re-selection is
    `chunkReselect`, which sorts these orders along the remaining path): when the loop of one minute returns without an error,
    either nothing was executed and none of the carried candidates is active with its price inside that minute's
    (gap-extended) candle, or no active order whose price lies in `real` has its price inside what remains of that
    minute. -/
theorem chunk_minute_no_resting_hit (fuel : Nat) (e : Engine M) (sym : Nat) (real cur : Candle) (cands : List Nat) :
    let resel := fun (e : Engine M) (_ : Candle) => executingOrders e sym real
    let r := matchLoop u fuel e sym cur cands resel true
    r.1.err = none →
      (r.1 = e ∧ r.2 = cur ∧ ∀ id ∈ cands, (orderOf e id).status = .active → ¬ candleIncludesPrice cur (orderOf e id).price)
      ∨ (∀ id ∈ executingOrders r.1 sym real, ¬ candleIncludesPrice r.2 (orderOf r.1 id).price) := by
  intro resel r herr
  rcases matchLoop_returns u fuel e sym cur cands resel true rfl herr with ⟨h1, h2⟩ | h
  · exact .inl ⟨congrArg Prod.fst h1, congrArg Prod.snd h1, (firstHit_eq_none e cur cands).mp h2⟩
  · refine .inr (fun id hid => (firstHit_eq_none r.1 r.2 _).mp h id hid ?_)
    exact ((mem_executingOrders r.1 sym real id).mp hid).2.1

/-- NEVER AFTER CANCELLATION / NEVER TWICE: executing an order that is not active (cancelled, already
    executed, unknown) changes nothing at all — no fill event, no account change, no hook. -/
theorem inactive_order_never_fills (e : Engine M) (id : Nat) (h : (orderOf e id).status ≠ .active) :
    executeOrder u e id = e := by
  fun_cases executeOrder u e id
  · rfl
  · rfl
  · contradiction
  · contradiction

/-- NO MARKET ORDER STAYS QUEUED: when the strategy step's market-order pass returns without an error, the queue of
    submitted-but-unfilled MARKET orders is empty — none waits for a later candle.  (That each queued order was handed to
    `executeOrder` on the way is the body of the loop, not part of the statement.) -/
theorem market_queue_drained (fuel : Nat) (e : Engine M) (h : (executePendingMarketOrders u fuel e).err = none) :
    (executePendingMarketOrders u fuel e).toExecute = [] := by
  revert h
  fun_cases executePendingMarketOrders u fuel e
  · rename_i h0; exact fun _ => List.isEmpty_iff.mp h0
  · exact executePendingMarketOrders_go_drained u fuel e 0

/-! ### the minute candle handed to the matching loop IS valid (normal simulator, whole runs)

`resting_order_never_left_in_range` and `sorted_head_first_on_path` assume a valid minute candle.  The simulator does
not hand the input row to the loop but the row after `_get_fixed_jumped_candle`, written back into the input array.
For input arrays of valid candles that row is valid at every minute of every run, whatever the strategies do. -/

def AllValid (ins : List (List Candle)) : Prop := ∀ cs ∈ ins, ∀ k ∈ cs, k.Valid

theorem getD_valid (ins : List (List Candle)) (hv : AllValid ins) (sym : Nat) : ∀ k ∈ ins.getD sym [], k.Valid :=
  (getD_mem_or_eq ins sym []).elim (hv _) (fun h => by rw [h]; exact fun _ hk => nomatch hk)

theorem fixedRow_valid (cs : List Candle) (i : Nat) (c : Candle) (hv : ∀ k ∈ cs, k.Valid) (h : fixedRow cs i = some c) :
    c.Valid := by
  revert h
  fun_cases fixedRow cs i
  · exact fun h => nomatch h
  · rename_i x hx _; exact fun h => Option.some.inj h ▸ hv x (List.mem_of_getElem? hx)
  · rename_i x hx _ p _; exact fun h => Option.some.inj h ▸ (C07.fix_jump_bounds p x (hv x (List.mem_of_getElem? hx))).1
  · rename_i x hx _ _; exact fun h => Option.some.inj h ▸ hv x (List.mem_of_getElem? hx)

theorem symStep_keeps_valid (fuel i : Nat) (acc : Engine M × List (List Candle)) (sym : Nat) (hv : AllValid acc.2) :
    AllValid (symStep u fuel i acc sym).2 := by
  fun_cases symStep u fuel i acc sym
  · exact hv
  · exact hv
  · rename_i c hc _ _ _ _
    exact forall_mem_set hv sym (forall_mem_set (getD_valid _ hv sym) i (fixedRow_valid _ i c (getD_valid _ hv sym) hc))

/-- the candle `symStep` hands to `simulateMinute` (and so to the matching loop) is valid -/
theorem minute_candle_valid (i : Nat) (ins : List (List Candle)) (sym : Nat) (c : Candle) (hv : AllValid ins)
    (h : fixedRow (ins.getD sym []) i = some c) : c.Valid :=
  fixedRow_valid _ i c (getD_valid _ hv sym) h

theorem stepAt_keeps_valid (fuel : Nat) (ins : List (List Candle)) (e : Engine M) (i : Nat) (hv : AllValid ins) :
    AllValid (stepAt u fuel ins e i).2 := by
  fun_cases stepAt u fuel ins e i
  · exact hv
  · exact foldl_keeps_snd (fun acc s => symStep_keeps_valid u fuel i acc s) _ hv

/-- VALID INPUT STAYS VALID over any number of iterations of the normal simulator: every minute candle of the run is
    valid, so the hypotheses of the matching theorems hold at every minute -/
theorem runStepN_keeps_valid (fuel : Nat) (ins : List (List Candle)) (e : Engine M) (n : Nat) (hv : AllValid ins) :
    AllValid (runStepN u fuel ins e n).2 :=
  foldl_keeps_snd (fun acc i => stepAt_keeps_valid u fuel acc.2 acc.1 i) _ hv

theorem fixedFirst_valid (cs : List Candle) (i : Nat) (hv : ∀ k ∈ cs, k.Valid) : ∀ k ∈ fixedFirst cs i, k.Valid := by
  fun_cases fixedFirst cs i
  · rename_i c hc; exact forall_mem_set hv i (fixedRow_valid cs i c hv hc)
  · exact hv
  · exact hv

theorem symSkip_keeps_valid (fuel i step : Nat) (acc : Engine M × List (List Candle)) (sym : Nat) (hv : AllValid acc.2) :
    AllValid (symSkip u fuel i step acc sym).2 := by
  fun_cases symSkip u fuel i step acc sym
  · exact hv
  · exact forall_mem_set hv sym (fixedFirst_valid _ i (getD_valid _ hv sym))

theorem skipAt_keeps_valid (fuel : Nat) (ins : List (List Candle)) (e : Engine M) (i step : Nat) (hv : AllValid ins) :
    AllValid (skipAt u fuel ins e i step).2 := by
  fun_cases skipAt u fuel ins e i step
  · exact hv
  · exact foldl_keeps_snd (fun acc s => symSkip_keeps_valid u fuel i step acc s) _ hv

/-- VALID INPUT STAYS VALID over any number of chunks of the fast simulator: the chunk handed to `simulateChunk` is a slice of valid rows
    (its first row jump-fixed), and each minute the chunk loop works on — `fixJump` of a valid row — is valid -/
theorem runSkipN_keeps_valid (fuel : Nat) (ins : List (List Candle)) (e : Engine M) (step k : Nat) (hv : AllValid ins) :
    AllValid (runSkipN u fuel ins e step k).2 :=
  foldl_keeps_snd (fun acc _ => skipAt_keeps_valid u fuel acc.2 acc.1 _ _) _ hv

theorem chunk_minute_valid (prev : Option Candle) (c : Candle) (hc : c.Valid) :
    (match prev with | some p => fixJump p c | none => c).Valid := by
  cases prev with
  | none => exact hc
  | some p => exact (C07.fix_jump_bounds p c hc).1

/-- the minutes the fast simulator SORTS a chunk along (`path_candles`, model `fixChunk`) are as many as the chunk's and
    all valid — so `sorted_head_first_on_path` applies to them as it does to the single minute of the normal simulator -/
theorem fixChunk_valid (cs : List Candle) : ∀ (prev : Option Candle), (∀ k ∈ cs, k.Valid) →
    (fixChunk prev cs).length = cs.length ∧ ∀ k ∈ fixChunk prev cs, k.Valid := by
  induction cs with
  | nil => intro prev _; cases prev <;> exact ⟨rfl, fun _ h => nomatch h⟩
  | cons c cs ih =>
    intro prev hv
    have hr := ih (some c) (fun k hk => hv k (List.mem_cons_of_mem _ hk))
    have hcons : fixChunk prev (c :: cs) = (match prev with | some p => fixJump p c | none => c) :: fixChunk (some c) cs := by
      cases prev <;> rfl
    rw [hcons]
    exact ⟨congrArg Nat.succ hr.1, List.forall_mem_cons.mpr ⟨chunk_minute_valid prev c (hv c List.mem_cons_self), hr.2⟩⟩

end C02

namespace C02
open Jesse Jesse.Eng Jesse.Gen Jesse.Acc ComposeLemmas

/-! ### non-vacuity: a concrete minute with two resting buys on both sides of the open -/

def idle : UserStrategy Unit :=
  { before := fun _ _ m => m, after := fun _ _ m => m, shouldLong := fun _ _ _ => false,
    shouldShort := fun _ _ _ => false, shouldCancelEntry := fun _ _ _ => false,
    goLong := fun _ _ m d => (m, d), goShort := fun _ _ m d => (m, d), updatePosition := fun _ _ m d => (m, d),
    onOpen := fun _ _ _ m d => (m, d), onIncreased := fun _ _ _ m d => (m, d), onReduced := fun _ _ _ m d => (m, d),
    onClose := fun _ _ _ m d => (m, d), beforeTerminate := fun _ _ m d => (m, d) }

/-- futures, one 1m route, a LIMIT buy at 97 and a STOP buy at 103 resting -/
def demoEngine : Engine Unit :=
  let e0 : Engine Unit := initEngine { routes := [⟨0, 1⟩], dataRoutes := [], nsym := 1, isolated := false } .futures 10000 0 1 ()
  let w1 := match Acc.submit e0.w 0 .buy .limit 1 97 false with | .ok w => w | .error (_, w) => w
  let w2 := match Acc.submit w1 0 .buy .stop 1 103 false with | .ok w => w | .error (_, w) => w
  { e0 with w := w2, via := [none, none], storage := [[0, 1]],
            strat := [{ mem := (), decl := { buy := some [(1, 97), (1, 103)] }, shadow := { buy := some [(1, 97), (1, 103)] } }] }

/-- the flat-bodied candle o = c = 100, h = 105, l = 95 (treated as rising: low first) -/
def demoCandle : Candle := ⟨60000, 100, 100, 105, 95, 1⟩

/-- both orders are inside the candle, the sort puts the LIMIT buy below the open first (rising path:
    low first), the matching loop ends without error and with both orders executed -/
example : executingOrders demoEngine 0 demoCandle = [0, 1] := by decide +kernel
example : sortExecutionOrders demoEngine [0, 1] [demoCandle] = [0, 1] := by decide +kernel
example : (matchLoop idle 50 demoEngine 0 demoCandle (sel 0 demoEngine demoCandle) (sel 0) false).1.err = none := by
  decide +kernel
example : (matchLoop idle 50 demoEngine 0 demoCandle (sel 0 demoEngine demoCandle) (sel 0) false).1.w.orders.map (·.status)
    = [.executed, .executed] := by decide +kernel
example : (demoCandle.Valid) := by decide +kernel

/-! ### regression witness for /repo fix 947063f1 (finding C02-F5: the fast simulator sorts a chunk's candidates along the
jump-fixed minutes it matches them on)

A 3m chunk whose second minute opens at 100.125 after a close of 100.375 and rises to 100.75; a buy LIMIT at 100.125
and a buy STOP at 100.5 rest.  The RAW path of that minute starts AT the LIMIT's price, so a sort along the raw minutes
puts the LIMIT first, and the STOP — which the jump-fixed path (from 100.375 up to 100.75, then down) reaches first — is
jumped over and left active inside the minute's range.  Sorted along the jump-fixed minutes (`fixChunk`) both are
filled. -/

/-- futures, one 3m route, a LIMIT buy at 100.125 and a STOP buy at 100.5 resting -/
def f5Engine : Engine Unit :=
  let e0 : Engine Unit := initEngine { routes := [⟨0, 3⟩], dataRoutes := [], nsym := 1, isolated := false } .futures 10000 0 1 ()
  let w1 := match Acc.submit e0.w 0 .buy .limit 1 (801/8) false with | .ok w => w | .error (_, w) => w
  let w2 := match Acc.submit w1 0 .buy .stop 1 (201/2) false with | .ok w => w | .error (_, w) => w
  { e0 with w := w2, via := [none, none], storage := [[0, 1]],
            strat := [{ mem := (), decl := { buy := some [(1, 801/8), (1, 201/2)] }, shadow := { buy := some [(1, 801/8), (1, 201/2)] } }] }

/-- minutes 18–20 of the witness session (o, c, h, l as the input gives them) -/
def f5Chunk : List Candle :=
  [⟨1080000, 803/8, 803/8, 803/8, 803/8, 1⟩, ⟨1140000, 801/8, 100, 403/4, 399/4, 1⟩, ⟨1200000, 100, 799/8, 100, 797/8, 1⟩]

/-- the second minute after the jump fix contains the STOP's price … -/
example : candleIncludesPrice (fixJump ⟨1080000, 803/8, 803/8, 803/8, 803/8, 1⟩ ⟨1140000, 801/8, 100, 403/4, 399/4, 1⟩) (201/2) := by
  decide +kernel

/-- … and the chunk ends, without an error, with BOTH orders executed -/
theorem fast_chunk_fills_both_regression :
    (simulateChunk idle 50 f5Engine 0 f5Chunk).err = none ∧
    (simulateChunk idle 50 f5Engine 0 f5Chunk).w.orders.map (·.status) = [.executed, .executed] := by
  decide +kernel

end C02

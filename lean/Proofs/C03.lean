/-
  Proofs/C03.lean — the futures account always equals an average-cost margin account.
  Statements over the accounts model (Jesse/Accounts.lean; `estimate_PNL` and `estimate_average_price`
  inside it are GENERATED from the source; the model is tied to the real classes by step-by-step
  correspondence).  The refinement of one fill to the reference account `Spec.MA` is proved for every symbol of every
  world (`core_effect_at`, `fill_refines_at`); the one-symbol statements are its special case.
-/
import Jesse.Accounts
import Spec.MarginAccount
import Proofs.Lemmas.Fill

namespace C03
open Jesse Jesse.Acc Jesse.Gen Spec

/-- REJECTION: a non-reduce-only order is rejected with InsufficientMargin exactly when its notional
    divided by the leverage exceeds the available margin — and then the account is left unchanged;
    a reduce-only order is never rejected. -/
theorem rejection_iff (w : World) (hk : w.kind = .futures) (sym : Nat) (side : Side) (type : OrderType)
    (q p : Rat) (ro : Bool) :
    (submit w sym side type q p ro = .error (.InsufficientMargin, w) ↔
      (ro = false ∧ absR (q * p) / w.leverage > availableMargin w)) ∧
    (∀ e w', submit w sym side type q p ro = .error (e, w') → e = .InsufficientMargin ∧ w' = w) := by
  have hqp : absR ((newOrder w sym side type q p ro).qty * p) = absR (q * p) := by
    rw [absR_mul, absR_newOrder_qty, ← absR_mul]
  rw [submit_futures w hk, hqp]
  refine ⟨⟨fun h => ?_, fun h => if_pos ⟨by simp [h.1], h.2⟩⟩, fun e w' h => ?_⟩
  · split at h
    · rename_i hc; exact ⟨by simpa using hc.1, hc.2⟩
    · cases h
  · split at h <;> cases h
    exact ⟨rfl, rfl⟩

/-- FEE ON EVERY FILL: the step every fill starts with (`chargeFee`, the `exchange.charge_fee` call at the head of
    `Position._on_executed_order`) debits fee × |qty × price| from the wallet, whatever the order, and leaves the
    positions alone. -/
theorem fee_on_every_fill (w : World) (hk : w.kind = .futures) (o : Order) :
    (chargeFee w o).wallet = w.wallet - absR (o.qty * o.price) * w.fee ∧ (chargeFee w o).pos = w.pos := by
  simp [chargeFee, hk]

def maOf (w : World) : MA := ⟨w.wallet, (getD w.pos 0).qty, (getD w.pos 0).entry⟩

/-- the margin account symbol `s` sees: the shared wallet and its own position -/
def maAt (w : World) (s : Nat) : MA := ⟨w.wallet, (getD w.pos s).qty, (getD w.pos s).entry⟩

theorem getD_single {α} [Inhabited α] (x : α) : getD [x] 0 = x := rfl
theorem absR_absR (x : Rat) : absR (absR x) = absR x := Jesse.absR_absR x

theorem estimatePNL_dir (x e c : Rat) {p : Pos} (h : p.qty ≠ 0) :
    estimatePNL x e c p.type 0 = absR x * (c - e) * dir p.qty := by
  rw [estimatePNL_sign _ _ _ h]
  unfold dir
  rcases lt_or_gt_of_ne h with hn | hn
  · rw [if_pos hn, if_neg (not_lt.mpr hn.le), if_pos hn]; ring
  · rw [if_neg (not_lt.mpr hn.le), if_pos hn]; ring

theorem maAt_closeTrade (w : World) (a s : Nat) : maAt (closeTrade w a) s = maAt w s := by
  obtain ⟨_, _, h⟩ := closeTrade_shape w a; rw [h]; rfl

theorem core_effect_at (w : World) (hk : w.kind = .futures) (o : Order) (hs : o.sym < w.pos.length)
    (hent : (getD w.pos o.sym).qty ≠ 0 → ∃ e, (getD w.pos o.sym).entry = some e)
    (hflat : (getD w.pos o.sym).qty = 0 → (getD w.pos o.sym).entry = none)
    (hq : o.qty ≠ 0) :
    maAt (onExecutedCore w o) o.sym = MA.fill 0 (maAt w o.sym) o.qty o.price o.reduceOnly := by
  fun_cases onExecutedCore w o
  -- open, close, idle (same direction, reduce-only), increase, clip (oversize reduce-only), flip, reduce, zero product
  · rw [mutOpen_futures hk hs rfl]
    simp only [maAt, getD_upd_same _ _ _ hs, MA.fill, hflat ‹_›, zero_mul, sub_zero]
  all_goals obtain ⟨e, he⟩ := hent ‹_›
  · rename_i h0 hc
    have hd : ¬ (getD w.pos o.sym).qty * o.qty > 0 := by
      rw [eq_neg_of_add_eq_zero_right hc, mul_neg]; exact not_lt.mpr (neg_nonpos.mpr (mul_self_nonneg _))
    have habs : absR o.qty = absR (getD w.pos o.sym).qty := by rw [eq_neg_of_add_eq_zero_right hc, absR_neg]
    rw [mutClose_futures hk rfl he, maAt_closeTrade, estimatePNL_dir _ _ _ h0]
    simp only [maAt, getD_upd_same _ _ _ hs, MA.fill, he, zero_mul, sub_zero, if_neg hd, habs, lt_irrefl, and_false,
      if_false, hc, if_true, absR_absR]
  · rename_i hd hr
    simp only [maAt, MA.fill, he, zero_mul, sub_zero, if_pos hd, hr, if_true]
  · rename_i hd hr
    rw [mutIncrease_futures hk rfl he hd]
    simp only [maAt, getD_upd_same _ _ _ hs, MA.fill, he, zero_mul, sub_zero, if_pos hd, hr, Bool.false_eq_true, if_false,
      estimateAveragePrice, absR_absR]
  · rename_i h0 _ hd _ hsz hr
    rw [mutClose_futures hk rfl he, maAt_closeTrade, estimatePNL_dir _ _ _ h0]
    simp only [maAt, getD_upd_same _ _ _ hs, MA.fill, he, zero_mul, sub_zero, if_neg hd, hr, hsz, and_self,
      if_true, absR_neg, lt_irrefl, if_false, add_neg_cancel, absR_absR]
  · rename_i h0 _ hd _ hsz hr
    obtain ⟨tr, tm, hct⟩ := closeTrade_shape
      { w with wallet := w.wallet + estimatePNL (absR (getD w.pos o.sym).qty) e o.price (getD w.pos o.sym).type 0,
               pos := upd w.pos o.sym (fun _ =>
                 { getD w.pos o.sym with entry := none, prevQty := (getD w.pos o.sym).qty, qty := 0 }) } o.sym
    rw [mutClose_futures hk rfl he, hct, mutOpen_futures (w := { w with wallet := _, pos := _, trades := tr, temp := tm }) hk
      (by rw [length_upd]; exact hs) rfl, estimatePNL_dir _ _ _ h0]
    simp only [maAt, getD_upd_same, length_upd, hs, MA.fill, he, zero_mul, sub_zero, if_neg hd, hr, hsz,
      Bool.false_eq_true, false_and, if_false, if_true, absR_absR]
  · rename_i h0 hc hd hd' hsz
    rw [mutReduce_futures hk rfl he hd', estimatePNL_dir _ _ _ h0]
    simp only [maAt, getD_upd_same _ _ _ hs, MA.fill, he, zero_mul, sub_zero, if_neg hd, hsz, and_false,
      if_false, hc, absR_absR]
  · rename_i h0 _ hd hd'
    exact absurd (mul_ne_zero h0 hq) (fun h => h (le_antisymm (not_lt.mp hd) (not_lt.mp hd')))

theorem at_single {w : World} {p : Pos} (hp : w.pos = [p]) {o : Order} (hs : o.sym = 0) :
    o.sym < w.pos.length ∧ getD w.pos o.sym = p ∧ maAt w o.sym = ⟨w.wallet, p.qty, p.entry⟩ := by
  unfold maAt
  rw [hs, hp]
  exact ⟨Nat.one_pos, rfl, rfl⟩

/-- what `Position._on_executed_order` does after the fee to the wallet and the position, on a world whose only
    position is `p`: one fee-free fill of the reference account -/
theorem core_effect (w : World) (hk : w.kind = .futures) (p : Pos) (hp : w.pos = [p]) (o : Order) (hs : o.sym = 0)
    (hent : p.qty ≠ 0 → ∃ e, p.entry = some e) (hflat : p.qty = 0 → p.entry = none)
    (hro : o.reduceOnly = true → p.qty ≠ 0) (hq : o.qty ≠ 0) :
    maOf (onExecutedCore w o) =
      MA.fill 0 ⟨w.wallet, p.qty, p.entry⟩ o.qty o.price o.reduceOnly := by
  obtain ⟨hl, hg, hm⟩ := at_single hp hs
  have h := core_effect_at w hk o hl (hg ▸ hent) (hg ▸ hflat) hq
  rwa [hm, hs] at h

theorem fill_fee_factor (fee : Rat) (m : MA) (q p : Rat) (ro : Bool) :
    MA.fill fee m q p ro = MA.fill 0 { m with wallet := m.wallet - fee * absR (q * p) } q p ro := by
  unfold MA.fill
  cases m.entry <;> simp

/-- no hypothesis on reduce-only orders is needed: against a flat position such an order opens it, in the model and in
    the reference account alike -/
theorem fill_refines_at (w : World) (hk : w.kind = .futures) (o : Order) (hs : o.sym < w.pos.length)
    (hent : (getD w.pos o.sym).qty ≠ 0 → ∃ e, (getD w.pos o.sym).entry = some e)
    (hflat : (getD w.pos o.sym).qty = 0 → (getD w.pos o.sym).entry = none) (hq : o.qty ≠ 0) :
    maAt (onExecuted w o) o.sym = MA.fill w.fee (maAt w o.sym) o.qty o.price o.reduceOnly := by
  unfold onExecuted
  rw [chargeFee_futures hk, core_effect_at { w with wallet := w.wallet - absR (o.qty * o.price) * w.fee } hk o hs hent hflat hq,
    fill_fee_factor w.fee, mul_comm]
  rfl

/-- REFINEMENT (one symbol): the position side of executing an order (`Position._on_executed_order`: the fee,
    then the branch on the position) changes wallet, position size and average entry exactly as one fill of
    the reference average-cost margin account: fee on the notional, PnL realised on reductions / closes /
    flips, average cost on increases, reduce-only fills clipped.  Legality as in the property: a reduce-only
    order only against an open position (not used, see `fill_refines_at`); a non-zero quantity. -/
theorem fill_refines (w : World) (hk : w.kind = .futures) (p : Pos) (hp : w.pos = [p]) (o : Order) (hs : o.sym = 0)
    (hent : p.qty ≠ 0 → ∃ e, p.entry = some e) (hflat : p.qty = 0 → p.entry = none)
    (hro : o.reduceOnly = true → p.qty ≠ 0) (hq : o.qty ≠ 0) :
    maOf (onExecuted w o) = MA.fill w.fee ⟨w.wallet, p.qty, p.entry⟩ o.qty o.price o.reduceOnly := by
  obtain ⟨hl, hg, hm⟩ := at_single hp hs
  have h := fill_refines_at w hk o hl (hg ▸ hent) (hg ▸ hflat) hq
  rwa [hm, hs] at h

/-- adding a number of the opposite sign and of no larger magnitude keeps the sign and does not increase the magnitude -/
theorem add_opposite_smaller {a b : Rat} (h : a * b ≤ 0) (hb : |b| ≤ |a|) : |a + b| ≤ |a| ∧ 0 ≤ (a + b) * a := by
  have hab : |a| * |b| = -(a * b) := by rw [← abs_mul, abs_of_nonpos h]
  have hbb : b * b ≤ |a| * |b| := by rw [← abs_mul_abs_self b]; exact mul_le_mul_of_nonneg_right hb (abs_nonneg b)
  constructor
  · rw [← sq_le_sq]; nlinarith
  · nlinarith [abs_mul_abs_self a, mul_le_mul_of_nonneg_left hb (abs_nonneg a)]

/-- REDUCE-ONLY fills never increase or flip a position (reference account; by `fill_refines` the
    same holds for the model). -/
theorem reduce_only_never_increases_or_flips (fee : Rat) (m : MA) (e q p : Rat) (he : m.entry = some e)
    (h0 : m.qty ≠ 0) :
    let m' := MA.fill fee m q p true
    |m'.qty| ≤ |m.qty| ∧ 0 ≤ m'.qty * m.qty := by
  simp only [MA.fill, he]
  -- same direction: untouched; oversize: clipped to a close; otherwise `q` is opposite and not larger
  by_cases h1 : m.qty * q > 0
  · simp only [h1, if_true]
    exact ⟨le_refl _, mul_self_nonneg _⟩
  · by_cases h2 : absR q > absR m.qty
    · have hle : ¬ absR (-m.qty) > absR m.qty := by rw [absR_neg]; exact lt_irrefl _
      simp [h1, h2, hle]
    · have := add_opposite_smaller (not_lt.mp h1) (by rw [← absR_eq_abs, ← absR_eq_abs]; exact not_lt.mp h2)
      by_cases h3 : m.qty + q = 0
      · simp [h1, h2, h3]
      · simpa only [h1, h2, h3, if_false, true_and] using this

theorem rowsSum_eq_sum (rows : List (Rat × Rat)) : rowsSum rows = (rows.map (fun r => r.1 * r.2)).sum := by
  unfold rowsSum
  rw [List.sum_eq_foldl, List.foldl_map]

/-- `eraseRow` removes the FIRST row equal to `x`, which is not the appended one when an identical (qty, price) row was
    already resting: the table is then a permutation of what it was, and the sum does not see the order -/
theorem rowsSum_upd_append_erase (rows : List (List (Rat × Rat))) (sym i : Nat) (x : Rat × Rat) :
    rowsSum (getD (upd (upd rows sym (· ++ [x])) sym (eraseRow · x.1 x.2)) i) = rowsSum (getD rows i) := by
  rw [upd_upd, getD_upd]
  split
  · have h := ((List.perm_cons_erase (a := x) (l := getD rows i ++ [x]) (by simp)).map (fun r => r.1 * r.2)).sum_eq
    simp only [List.map_append, List.sum_append, List.map_cons, List.map_nil, List.sum_cons, List.sum_nil] at h
    simp only [rowsSum_eq_sum, Function.comp_apply, eraseRow]
    linarith
  · rfl

theorem availableMargin_congr (w w' : World) (h1 : w'.wallet = w.wallet) (h2 : w'.pos = w.pos)
    (h3 : w'.leverage = w.leverage)
    (hb : ∀ i, rowsSum (getD w'.buyRows i) = rowsSum (getD w.buyRows i))
    (hs : ∀ i, rowsSum (getD w'.sellRows i) = rowsSum (getD w.sellRows i)) :
    availableMargin w' = availableMargin w := by
  unfold availableMargin
  simp only [h1, h2, h3, hb, hs]

/-- SUBMIT THEN CANCEL of an accepted non-reduce-only order (a reduce-only one never enters the margin rows)
    restores the available margin exactly — for every symbol, side and type, also when other resting orders
    carry the same (qty, price). -/
theorem submit_cancel_restores_margin (w w' : World) (hk : w.kind = .futures) (sym : Nat) (side : Side)
    (type : OrderType) (q p : Rat) (hsym : sym < w.buyRows.length ∧ sym < w.sellRows.length)
    (h : submit w sym side type q p false = .ok w') :
    availableMargin (cancel w' w.orders.length) = availableMargin w := by
  rw [submit_futures w hk] at h
  split at h <;> cases h
  cases side
  · rw [if_neg Bool.false_ne_true, if_pos rfl, cancel_eq (getElem?_register _ _) rfl]
    simp only [register, hk]
    exact availableMargin_congr _ _ rfl rfl rfl (fun i => rowsSum_upd_append_erase _ _ i (_, p)) (fun i => rfl)
  · rw [if_neg Bool.false_ne_true, if_neg (by decide), cancel_eq (getElem?_register _ _) rfl]
    simp only [register, hk]
    exact availableMargin_congr _ _ rfl rfl rfl (fun i => rfl) (fun i => rowsSum_upd_append_erase _ _ i (_, p))

/-! ### several symbols sharing one wallet

Every function of `Position._on_executed_order` reads and writes the position of its own symbol and the shared wallet
only, and the closed forms of Proofs/Lemmas/Fill.lean hold at any symbol index.  So the refinement holds for every symbol
of every world (`fill_refines_at`, of which `fill_refines` is the case of one position), and the positions of all other
symbols are left untouched.  `Sim s w w1` (`w1` shows at index 0 what `w` shows at index `s`) is used by no theorem. -/

structure Sim (s : Nat) (w w1 : World) : Prop where
  kind : w1.kind = w.kind
  fee : w1.fee = w.fee
  wallet : w1.wallet = w.wallet
  pos : getD w1.pos 0 = getD w.pos s
  hs : s < w.pos.length
  h1 : 0 < w1.pos.length

/-- REFINEMENT, ANY NUMBER OF SYMBOLS: executing an order of symbol `s` changes the shared wallet and `s`'s position
    exactly as one fill of the reference margin account that holds `s`'s position — whatever the other symbols hold -/
theorem fill_refines_any_symbol (w : World) (hk : w.kind = .futures) (o : Order) (hs : o.sym < w.pos.length)
    (hent : (getD w.pos o.sym).qty ≠ 0 → ∃ e, (getD w.pos o.sym).entry = some e)
    (hflat : (getD w.pos o.sym).qty = 0 → (getD w.pos o.sym).entry = none)
    (hro : o.reduceOnly = true → (getD w.pos o.sym).qty ≠ 0) (hq : o.qty ≠ 0) :
    maAt (onExecuted w o) o.sym = MA.fill w.fee (maAt w o.sym) o.qty o.price o.reduceOnly :=
  fill_refines_at w hk o hs hent hflat hq

theorem upd_other_getD {α} [Inhabited α] (l : List α) (i j : Nat) (f : α → α) (h : i ≠ j) : getD (upd l i f) j = getD l j :=
  getD_upd_ne l i j f h

/-- … and the positions of all OTHER symbols are left exactly as they were -/
theorem fill_leaves_other_symbols (w : World) (o : Order) (s' : Nat) (hne : o.sym ≠ s') :
    getD (onExecuted w o).pos s' = getD w.pos s' := by
  obtain ⟨_, f, _, _, h⟩ := fillOnly_onExecuted w o
  rw [h]
  exact getD_upd_ne _ _ _ f hne

/-- non-vacuity: two symbols; a fill on the second one flips its short of 2 at 50 into a long of 1 at 40 and books
    +20 minus the fee 0.12, while the first symbol's long stays as it was -/
example : (let w : World := { (init .futures 1000 (1/1000) 10 2) with pos := [{ qty := 3, entry := some 100 }, { qty := -2, entry := some 50 }] }
    let o : Order := ⟨0, 1, .buy, .market, 3, 40, false, .active⟩
    decide (maAt (onExecuted w o) 1 = ⟨1000 - 12/100 + 20, 1, some 40⟩ ∧ getD (onExecuted w o).pos 0 = { qty := 3, entry := some 100 })) = true := by
  decide +kernel

end C03

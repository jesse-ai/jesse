/-
  Proofs/C15.lean — the indicator kernels of Jesse/Ind/*.lean (tied to the real indicators by correspondence)
  against the textbook definitions of Spec/Ind.lean: equality with the definition for the values that are
  functions of a trailing window, seed and recurrence step of the smoothers and their seed independence,
  non-negativity, ranges of the oscillators, band orderings, homogeneity, and the dispatch table of `ma`.
  All statements are for ALL inputs (exact rational arithmetic).
-/
import Proofs.Lemmas.IndSpec
import Jesse.Gen.IndWrappers

namespace C15
open Jesse Jesse.Ind Spec.Ind Jesse.Gen

/-- SMA = mean of the trailing window (the code computes it as a convolution with `p` weights `1/p`) -/
theorem sma_is_window_mean (p : Nat) (xs : List Rat) (i : Nat) (hp : 0 < p) (hi : i < xs.length) :
    (sma p xs)[i]? = some (smaAt p xs i) :=
  trailing_getElem?_of_agree p _ mean xs i hi fun w hw => by
    have : (p : Rat) ≠ 0 := Nat.cast_ne_zero.2 (Nat.ne_of_gt hp)
    rw [dot_replicate w _ p hw.le, mean, hw]
    field_simp

example : (sma 2 [1, 2, 4])[2]? = some (some 3) := by decide +kernel

/-- WMA = linearly weighted mean (weights 1 … p, newest heaviest) of the trailing window -/
theorem wma_is_weighted_mean (p : Nat) (xs : List Rat) (i : Nat) (hi : i < xs.length) :
    (wma p xs)[i]? = some (wmaAt p xs i) :=
  trailing_getElem?_of_agree p _ wmean xs i hi fun w hw => by
    rw [arange1_eq, dot_range' w 1 p hw.le, ← arange1_eq, sum_arange1, wmean, hw]

example : (wma 2 [1, 2, 4])[2]? = some (some (10 / 3)) := by decide +kernel

/-- rate of change: `(x[i]/x[i-p] - 1)*100` from row `p` on, where the old price is not 0 (there the code
    yields ±inf or NaN and the model NaN) -/
theorem roc_def (p : Nat) (xs : List Rat) (i : Nat) (cur old : Rat) (hpi : p ≤ i)
    (hc : xs[i]? = some cur) (ho : xs[i - p]? = some old) (hne : old ≠ 0) :
    (roc p xs)[i]? = some (some (rocOf cur old)) := by
  unfold roc
  rw [lag_getElem? p (fun a b => (odiv a b).map _) xs i (List.getElem?_eq_some_iff.1 hc).1, if_neg (Nat.not_lt.2 hpi), hc, ho]
  simp [odiv, hne, rocOf]

/-- momentum: `x[i] - x[i-p]` from row `p` on -/
theorem mom_def (p : Nat) (xs : List Rat) (i : Nat) (cur old : Rat) (hpi : p ≤ i)
    (hc : xs[i]? = some cur) (ho : xs[i - p]? = some old) :
    (mom p xs)[i]? = some (some (cur - old)) := by
  unfold mom
  rw [lag_getElem? p osub xs i (List.getElem?_eq_some_iff.1 hc).1, if_neg (Nat.not_lt.2 hpi), hc, ho]
  rfl

/-- roc and mom are undefined (NaN) before row `p` -/
theorem roc_mom_warmup (p : Nat) (xs : List Rat) (i : Nat) (hi : i < xs.length) (h : i < p) :
    (roc p xs)[i]? = some none ∧ (mom p xs)[i]? = some none := by
  unfold roc mom
  rw [lag_getElem? p (fun a b => (odiv a b).map _) xs i hi, lag_getElem? p osub xs i hi, if_pos h, if_pos h]
  exact ⟨rfl, rfl⟩

/-- the price transforms are the textbook pointwise formulas -/
theorem transforms_def (cs : List Candle) :
    typprice cs = cs.map (fun k => some (typ k)) ∧ medprice cs = cs.map (fun k => some (med k))
    ∧ avgprice cs = cs.map (fun k => some (avg k)) ∧ wclprice cs = cs.map (fun k => some (wcl k)) := by
  refine ⟨?_, ?_, ?_, ?_⟩
  · unfold typprice typ; congr 1; funext k; congr 2; ring
  · rfl
  · rfl
  · rfl

/-- Donchian: from row `p-1` on the upper band IS the maximum high and the lower band IS the minimum
    low of the trailing window, the middle band is their average; on valid candles (low ≤ high)
    the bands are ordered and the channel encloses every candle of the window -/
theorem donchian_def_ordered (p : Nat) (cs : List Candle) (i : Nat) (hp : 0 < p) (hpi : p ≤ i + 1) (hi : i < cs.length)
    (hv : ∀ k ∈ cs, k.l ≤ k.h) :
    ∃ u m l, (donchianUpper p cs)[i]? = some (some u) ∧ (donchianMiddle p cs)[i]? = some (some m)
      ∧ (donchianLower p cs)[i]? = some (some l)
      ∧ IsMax u (highs (window p i cs)) ∧ IsMin l (lows (window p i cs)) ∧ m = (u + l) / 2
      ∧ l ≤ m ∧ m ≤ u ∧ ∀ k ∈ window p i cs, l ≤ k.l ∧ k.h ≤ u := by
  have hne : window p i cs ≠ [] := List.ne_nil_of_length_pos ((length_window p i cs hi hpi).symm ▸ hp)
  refine ⟨_, _, _, trailing_getElem?_of_le _ _ _ _ hi hpi, trailing_getElem?_of_le _ _ _ _ hi hpi,
    trailing_getElem?_of_le _ _ _ _ hi hpi, isMax_maxL _ (mt List.map_eq_nil_iff.1 hne),
    isMin_minL _ (mt List.map_eq_nil_iff.1 hne), rfl, ?_⟩
  · obtain ⟨k, hk⟩ := List.exists_mem_of_ne_nil _ hne
    have h1 := low_high_bounds _ k hk
    have h2 := hv k (mem_of_mem_window _ _ _ _ hk)
    exact ⟨by linarith, by linarith, low_high_bounds _⟩

/-- Williams %R stays in [-100, 0] on valid candles (low ≤ close ≤ high), and is the textbook
    `-100·(HH - C)/(HH - LL)` whenever the window is not flat -/
theorem willr_range (p : Nat) (cs : List Candle) (i : Nat) (hp : 0 < p) (hpi : p ≤ i + 1) (hi : i < cs.length)
    (hv : ∀ k ∈ cs, k.l ≤ k.c ∧ k.c ≤ k.h) :
    ∃ r, (willr p cs)[i]? = some (some r) ∧ -100 ≤ r ∧ r ≤ 0
      ∧ ∀ k, (window p i cs).getLast? = some k →
          maxL (highs (window p i cs)) - minL (lows (window p i cs)) ≠ 0 →
          r = willrOf (maxL (highs (window p i cs))) (minL (lows (window p i cs))) k.c := by
  have hk := getLast?_window p i cs hi hp hpi
  obtain ⟨hmc, hcM⟩ := close_in_window _ (fun k hk => hv k (mem_of_mem_window _ _ _ _ hk)) _ hk
  unfold willr willrOf
  rw [trailing_getElem?_of_le _ _ _ _ hi hpi, willrWin, hk]
  generalize maxL (highs (window p i cs)) = M at *
  generalize minL (lows (window p i cs)) = m at *
  dsimp only
  split
  · exact ⟨0, rfl, by norm_num, le_refl _, fun _ _ h => absurd ‹M - m = 0› h⟩
  · obtain ⟨h0, h1⟩ := div_mem_unit (sub_nonneg.2 hcM) (sub_le_sub_left hmc M)
      (lt_of_le_of_ne (sub_nonneg.2 (hmc.trans hcM)) (Ne.symm ‹_›))
    exact ⟨_, rfl, by rw [mul_neg, neg_le_neg_iff]; exact mul_le_of_le_one_left (by norm_num) h1,
      mul_nonpos_of_nonneg_of_nonpos h0 (by norm_num), fun k' hk' _ => by cases hk'; ring⟩

/-- OBV is the textbook signed running sum of the volume -/
theorem obv_is_spec (cs : List Candle) (i : Nat) (hi : i < cs.length) :
    (obv cs)[i]? = some (some (obvAt cs i)) := by
  -- after row `j` the state holds that row's close and the textbook value
  have hst := stateAfter_inv obvStep none cs
    (fun k s => match k with | 0 => s = none | j + 1 => ∃ c, cs[j]? = some c ∧ s = some (c.c, obvAt cs j))
    rfl (fun k s x hx hs => ?_) i hi.le
  · unfold obv
    rw [scanState_getElem?, List.getElem?_eq_getElem hi]
    cases i with
    | zero => rw [hst, obvAt, List.getElem?_eq_getElem hi]; rfl
    | succ j => obtain ⟨c, hc, hs⟩ := hst; rw [hs, obvAt, hc, List.getElem?_eq_getElem hi]; rfl
  · cases k with
    | zero => subst hs; exact ⟨x, hx, by rw [obvAt, hx]; rfl⟩
    | succ j => obtain ⟨c, hc, rfl⟩ := hs; exact ⟨x, hx, by rw [obvAt, hc, hx]; rfl⟩

/-- EMA: NaN before row `p-1`; the seed at row `p-1` is the mean of the first `p` values -/
theorem ema_seed (p : Nat) (xs : List Rat) (hp : 0 < p) (h : p ≤ xs.length) :
    (∀ i, i + 1 < p → (ema p xs)[i]? = some none) ∧ (ema p xs)[p - 1]? = some (some (seedOf p xs)) :=
  ⟨fun i hi => seeded_none p _ xs i (by omega) hi, seeded_seed p _ xs hp h⟩

/-- EMA recurrence step: `out[i] = α·x[i] + (1-α)·out[i-1]` with `α = 2/(p+1)`, for every row after the seed -/
theorem ema_step (p : Nat) (xs : List Rat) (i : Nat) (prev x : Rat) (hp : 0 < p) (hpi : p ≤ i)
    (hprev : (ema p xs)[i - 1]? = some (some prev)) (hx : xs[i]? = some x) :
    (ema p xs)[i]? = some (some (expStep (alpha p) prev x)) :=
  seeded_step p _ xs i prev x hp hpi hprev hx

example : (ema 2 [1, 3, 5])[2]? = some (some (expStep (alpha 2) 2 5)) := by decide +kernel

/-- ATR: mean of the first `p` true ranges at row `p-1`, then Wilder's step `(prev·(p-1) + tr)/p`,
    i.e. the exponential recurrence with `α = 1/p` -/
theorem atr_seed_step (p : Nat) (cs : List Candle) (hp : 0 < p) :
    (p ≤ cs.length → (atr p cs)[p - 1]? = some (some (seedOf p (trR cs))))
    ∧ ∀ i prev t, p ≤ i → (atr p cs)[i - 1]? = some (some prev) → (trR cs)[i]? = some t →
        (atr p cs)[i]? = some (some (expStep (1 / (p : Rat)) prev t)) := by
  refine ⟨fun h => seeded_seed p _ (trR cs) hp (by rwa [trR, length_scanState]), ?_⟩
  intro i prev t hpi hprev ht
  rw [← wilderUpd_eq_expStep p hp]
  exact seeded_step p (wilderUpd p) (trR cs) i prev t hp hpi hprev ht

/-- Wilder's smoothing (`wilders`): `out[i+1] = (out[i]·(p-1) + x[i+1])/p`, i.e. the exponential recurrence with
    `α = 1/p`, from the first row on (its seed is `x[0]`) -/
theorem wilders_step (p : Nat) (hp : 0 < p) (xs : List Rat) (i : Nat) (y x : Rat)
    (hy : (wilders p xs)[i]? = some (some y)) (hx : xs[i + 1]? = some x) :
    (wilders p xs)[i + 1]? = some (some (expStep (1 / (p : Rat)) y x)) := by
  rw [← wilderUpd_eq_expStep p hp]
  exact scanState_feedback (wildersStep p) id (fun s _ => by cases s <;> rfl) none xs i (some y) x hy hx

/-- `rma`: `out[i+1] = α·x[i+1] + (1-α)·out[i]` with `α = 1/length` for every row (only its seed is wrong, C13) -/
theorem rma_step (p : Nat) (xs : List Rat) (i : Nat) (y x : Rat)
    (hy : (rmaR p xs)[i]? = some y) (hx : xs[i + 1]? = some x) :
    (rmaR p xs)[i + 1]? = some (expStep (1 / (p : Rat)) y x) :=
  scanState_feedback (rmaStep p) id (fun _ _ => rfl) (rmaSeed xs) xs i y x hy hx

/-- MACD: the histogram is the MACD line minus the signal line, the signal line is the exponential
    recurrence (`α = 2/(signal+1)`) over the MACD line, the MACD line is fast EMA minus slow EMA -/
theorem macd_def (f s g : Nat) (xs : List Rat) :
    macdHist f s g xs = List.zipWith (fun a b => a - b) (macdLine f s xs) (macdSignal f s g xs)
    ∧ macdSignal f s g xs = ema0 (alpha g) (macdLine f s xs)
    ∧ macdLine f s xs = List.zipWith (fun a b => a - b) (ema0 (alpha f) xs) (ema0 (alpha s) xs) :=
  ⟨rfl, rfl, rfl⟩

/-- DEMA = 2·EMA − EMA(EMA), TEMA = 3·EMA − 3·EMA(EMA) + EMA(EMA(EMA)) (EMAs started at the first value) -/
theorem dema_tema_def (p : Nat) (xs : List Rat) :
    demaR p xs = List.zipWith (fun e1 e2 => 2 * e1 - e2) (ema0 (alpha p) xs) (ema0 (alpha p) (ema0 (alpha p) xs))
    ∧ temaR p xs = List.zipWith (fun e12 e3 => e12 + e3)
        (List.zipWith (fun e1 e2 => 3 * e1 - 3 * e2) (ema0 (alpha p) xs) (ema0 (alpha p) (ema0 (alpha p) xs)))
        (ema0 (alpha p) (ema0 (alpha p) (ema0 (alpha p) xs))) :=
  ⟨rfl, rfl⟩

/-- seed independence, algebraically: two runs of the exponential recurrence `α·x + (1-α)·prev`
    that differ only in their seed differ at row `i` by exactly `(1-α)^(i+1)` times the seed
    difference — so the influence of ANY start-up seed decays geometrically -/
theorem smoother_seed_independence (a s1 s2 : Rat) (xs : List Rat) (i : Nat) (hi : i < xs.length) :
    ∃ y1 y2, (scanState (smoothStep a) s1 xs)[i]? = some y1 ∧ (scanState (smoothStep a) s2 xs)[i]? = some y2
      ∧ y1 - y2 = (1 - a) ^ (i + 1) * (s1 - s2) := by
  induction xs generalizing s1 s2 i with
  | nil => exact absurd hi (Nat.not_lt_zero _)
  | cons x xs ih =>
    cases i with
    | zero => exact ⟨_, _, rfl, rfl, by unfold smoothStep emaUpd; ring⟩
    | succ i =>
      obtain ⟨y1, y2, h1, h2, h3⟩ := ih (emaUpd a s1 x) (emaUpd a s2 x) i (Nat.lt_of_succ_lt_succ hi)
      exact ⟨y1, y2, h1, h2, by rw [h3]; unfold emaUpd; ring⟩

/-- for `rma` (whose seed is, wrongly, the LAST input value — C13): at row `i` it differs from the same
    recurrence started from any other seed `s` by `(1-1/p)^(i+1)·(x_last - s)` -/
theorem rma_seed_decay (p : Nat) (xs : List Rat) (s : Rat) (i : Nat) (hi : i < xs.length) :
    ∃ y1 y2, (rmaR p xs)[i]? = some y1 ∧ (scanState (rmaStep p) s xs)[i]? = some y2
      ∧ y1 - y2 = (1 - 1 / (p : Rat)) ^ (i + 1) * (rmaSeed xs - s) :=
  smoother_seed_independence (1 / (p : Rat)) (rmaSeed xs) s xs i hi

theorem tr_nonneg (cs : List Candle) (hv : ∀ k ∈ cs, k.l ≤ k.h) : ∀ t ∈ trR cs, 0 ≤ t := by
  refine scanState_forall trStep (fun _ => True) (fun k => k.l ≤ k.h) (fun t => 0 ≤ t) (fun s k _ hk => ⟨trivial, ?_⟩)
    none trivial cs hv
  show 0 ≤ trOf s k
  fun_cases trOf s k
  · exact sub_nonneg.2 hk
  · exact le_trans (absR_nonneg _) (maxR_pick _ _).2.2

theorem atr_nonneg (p : Nat) (cs : List Candle) (hp : 0 < p) (hv : ∀ k ∈ cs, k.l ≤ k.h) :
    ∀ a ∈ atr p cs, ∀ v, a = some v → 0 ≤ v :=
  seeded_nonneg p _ (wilderUpd_nonneg p hp) _ (tr_nonneg cs hv)

/-- RSI stays in [0, 100] for every input and every period ≥ 1 -/
theorem rsi_range (p : Nat) (hp : 0 < p) (xs : List Rat) :
    ∀ y ∈ rsi p xs, ∀ v, y = some v → 0 ≤ v ∧ v ≤ 100 := by
  refine scanState_forall (rsiStep p) (fun s => 0 ≤ s.g ∧ 0 ≤ s.l) (fun _ => True)
    (fun y => ∀ v, y = some v → 0 ≤ v ∧ v ≤ 100) (fun s x ⟨hg, hl⟩ _ => ?_) _ ⟨le_refl _, le_refl _⟩ xs
    (fun _ _ => trivial)
  have hG := add_nonneg hg (gainOf_nonneg (x - s.prev))
  have hL := add_nonneg hl (lossOf_nonneg (x - s.prev))
  fun_cases rsiStep p s x
  · exact ⟨⟨le_refl _, le_refl _⟩, fun v h => by cases h⟩
  · exact ⟨⟨hG, hL⟩, fun v h => by cases h⟩
  · have h1 := div_nonneg hG (Nat.cast_nonneg (α := Rat) p)
    have h2 := div_nonneg hL (Nat.cast_nonneg (α := Rat) p)
    exact ⟨⟨h1, h2⟩, fun v h => by cases h; exact rsiVal_range _ _ h1 h2⟩
  · have h1 := wilderUpd_nonneg p hp s.g _ hg (gainOf_nonneg (x - s.prev))
    have h2 := wilderUpd_nonneg p hp s.l _ hl (lossOf_nonneg (x - s.prev))
    exact ⟨⟨h1, h2⟩, fun v h => by cases h; exact rsiVal_range _ _ h1 h2⟩

example : (rsi 2 [1, 2, 3, 2])[3]? = some (some (100 - 100 / (1 + (1 / 2) / (1 / 2)))) := by decide +kernel

/-- the money flow index stays in [0, 100] for non-negative typical prices and volumes -/
theorem mfi_range (p : Nat) (cs : List Candle) (hv : ∀ k ∈ cs, 0 ≤ tpOf k ∧ 0 ≤ k.v) :
    ∀ y ∈ mfi p cs, ∀ v, y = some v → 0 ≤ v ∧ v ≤ 100 := by
  intro y hy v hyv
  obtain ⟨i, hi⟩ := List.getElem?_of_mem hy
  obtain ⟨_, _, hw⟩ := of_trailing_some (hyv ▸ hi)
  cases hw
  have hflows : ∀ f ∈ window p i (mfiFlows cs), 0 ≤ f.1 ∧ 0 ≤ f.2 := fun f hf => by
    obtain ⟨j, _, rfl⟩ := mem_pmap _ _ _ (mem_of_mem_window _ _ _ _ hf)
    exact mfiFlow_nonneg _ fun k hk => hv k (List.mem_of_mem_take hk)
  exact mfiVal_range _ _
    (sum_nonneg_of _ fun x hx => by obtain ⟨f, hf, rfl⟩ := List.mem_map.1 hx; exact (hflows f hf).1)
    (sum_nonneg_of _ fun x hx => by obtain ⟨f, hf, rfl⟩ := List.mem_map.1 hx; exact (hflows f hf).2)

/-- stochastic %K of a window, where it is defined, lies in [0, 100] on valid candles (low ≤ close ≤ high)
    and is the textbook `100·(C - LL)/(HH - LL)` (the model gives NaN for a flat window, `0/0`) -/
theorem percentK_range (w : List Candle) (hv : ∀ k ∈ w, k.l ≤ k.c ∧ k.c ≤ k.h) :
    ∀ r, percentKWin w = some r → 0 ≤ r ∧ r ≤ 100
      ∧ ∀ k, w.getLast? = some k → r = percentK (maxL (highs w)) (minL (lows w)) k.c := by
  intro r hr
  unfold percentKWin at hr
  cases hk : w.getLast? with
  | none => rw [hk] at hr; cases hr
  | some k =>
    rw [hk] at hr
    obtain ⟨hmc, hcM⟩ := close_in_window w hv k hk
    unfold percentK
    generalize maxL (highs w) = M at *
    generalize minL (lows w) = m at *
    simp only [odiv, Option.bind_eq_bind, Option.bind_some, Option.pure_def] at hr
    split at hr
    · cases hr
    · cases hr
      obtain ⟨h0, h1⟩ := div_mem_unit (sub_nonneg.2 hmc) (sub_le_sub_right hcM m)
        (lt_of_le_of_ne (sub_nonneg.2 (hmc.trans hcM)) (Ne.symm ‹_›))
      rw [mul_div_assoc]
      exact ⟨mul_nonneg (by norm_num) h0, mul_le_of_le_one_right (by norm_num) h1,
        fun k' hk' => by cases hk'; rw [mul_div_assoc]⟩

/-- hence the fast stochastic %K series stays in [0, 100] wherever it is defined, on valid candles -/
theorem stochf_k_range (p : Nat) (cs : List Candle) (hv : ∀ k ∈ cs, k.l ≤ k.c ∧ k.c ≤ k.h) (i : Nat) (r : Rat)
    (h : (stochfK p cs)[i]? = some (some r)) : 0 ≤ r ∧ r ≤ 100 := by
  have hi : i < cs.length := length_pmap _ cs ▸ (List.getElem?_eq_some_iff.1 h).1
  unfold stochfK at h
  rw [pmap_getElem? _ _ _ hi] at h
  have := percentK_range _ (fun k hk => hv k (List.mem_of_mem_take (List.mem_of_mem_drop hk))) r (Option.some.inj h)
  exact ⟨this.1, this.2.1⟩

/-- Bollinger bands are ordered upper ≥ middle ≥ lower wherever all three are defined, for non-negative
    deviation multipliers and every function used as `sqrt` that is non-negative -/
theorem bollinger_ordered (sqrt : Rat → Rat) (hs : ∀ x, 0 ≤ sqrt x) (p : Nat) (du dd : Rat) (hdu : 0 ≤ du) (hdd : 0 ≤ dd)
    (xs : List Rat) (i : Nat) (u m l : Rat)
    (hu : (bbUpper sqrt p du xs)[i]? = some (some u)) (hm : (bbMiddle p xs)[i]? = some (some m))
    (hl : (bbLower sqrt p dd xs)[i]? = some (some l)) : l ≤ m ∧ m ≤ u :=
  band_ordered (sma p xs) (bbDev sqrt p xs) du dd hdu hdd i
    (fun d hd => by obtain ⟨_, _, hv⟩ := of_trailing_some hd; cases hv; exact hs _) u m l hu hm hl

/-- Keltner channel: upper ≥ middle ≥ lower wherever defined, on valid candles, for a non-negative multiplier -/
theorem keltner_ordered (p : Nat) (hp : 0 < p) (mult : Rat) (hmu : 0 ≤ mult) (s : Source) (cs : List Candle)
    (hv : ∀ k ∈ cs, k.l ≤ k.h) (i : Nat) (u m l : Rat)
    (hu : (keltnerUpper p mult s cs)[i]? = some (some u)) (hm : (keltnerMiddle p s cs)[i]? = some (some m))
    (hl : (keltnerLower p mult s cs)[i]? = some (some l)) : l ≤ m ∧ m ≤ u :=
  band_ordered (ema p (source s cs)) (atr p cs) mult mult hmu hmu i
    (fun d hd => atr_nonneg p cs hp hv _ (List.mem_of_getElem? hd) d rfl) u m l hu hm hl

/-- the standard deviation is non-negative for every non-negative `sqrt` and multiplier -/
theorem stddev_nonneg (sqrt : Rat → Rat) (hs : ∀ x, 0 ≤ sqrt x) (p : Nat) (nb : Rat) (hnb : 0 ≤ nb) (xs : List Rat)
    (i : Nat) (v : Rat) (h : (stddev sqrt p nb xs)[i]? = some (some v)) : 0 ≤ v := by
  obtain ⟨_, _, hv⟩ := of_trailing_some h
  cases hv
  exact mul_nonneg (hs _) hnb

/-- VAR: every defined value is the population variance of its trailing window times `nbdev` — from which `var_nonneg`
    (in exact arithmetic; the float shortcut `mean(x²) − mean(x)²` can dip below zero by rounding, which is what the
    oracle's tolerance is for) -/
theorem var_is_population_variance (p : Nat) (hp : 0 < p) (nb : Rat) (xs : List Rat) (i : Nat) (v : Rat)
    (h : (var p nb xs)[i]? = some (some v)) :
    i < xs.length ∧ p ≤ i + 1 ∧ v = popVar p (window p i xs) * nb := by
  obtain ⟨hi, hpi, hv⟩ := of_trailing_some h
  cases hv
  exact ⟨hi, hpi, by rw [shortcut_is_popVar p hp _ (length_window p i xs hi hpi)]⟩

theorem var_nonneg (p : Nat) (hp : 0 < p) (nb : Rat) (hnb : 0 ≤ nb) (xs : List Rat) (i : Nat) (v : Rat)
    (h : (var p nb xs)[i]? = some (some v)) : 0 ≤ v := by
  rw [(var_is_population_variance p hp nb xs i v h).2.2]
  exact mul_nonneg (popVar_nonneg p _) hnb

/-- BOLLINGER deviation: the numba kernel's `sqrt(max(sum_sq/p − mean², 0))` is `sqrt` of the population variance of
    the window — the clamp at zero never acts in exact arithmetic -/
theorem bollinger_dev_is_std (sqrt : Rat → Rat) (p : Nat) (hp : 0 < p) (xs : List Rat) (i : Nat) (v : Rat)
    (h : (bbDev sqrt p xs)[i]? = some (some v)) :
    i < xs.length ∧ p ≤ i + 1 ∧ v = sqrt (popVar p (window p i xs)) := by
  obtain ⟨hi, hpi, hv⟩ := of_trailing_some h
  cases hv
  refine ⟨hi, hpi, congrArg sqrt ?_⟩
  show maxR (meanOf p ((window p i xs).map (fun x => x * x)) - meanOf p (window p i xs) * meanOf p (window p i xs)) 0 = _
  rw [shortcut_is_popVar p hp _ (length_window p i xs hi hpi), maxR_eq_max, max_eq_left (popVar_nonneg p _)]

/-- non-vacuity: var(period 2) of 1, 3, 7 is 1 and 4 -/
example : var 2 1 [1, 3, 7] = [none, some 1, some 4] := by decide +kernel

/-- CCI: every defined value is `(tp − mean) / (0.015 · mean absolute deviation)` of the trailing window of typical
    prices — and 0 where the deviation is 0 (the guard of `calculate_cci_loop`) -/
theorem cci_def (p : Nat) (hp0 : 0 < p) (cs : List Candle) (i : Nat) (v : Rat) (h : (cci p cs)[i]? = some (some v)) :
    ∃ t, (cs.map tpOf)[i]? = some t ∧ p ≤ i + 1 ∧
      let w := window p i (cs.map tpOf)
      let md := sum (w.map (fun x => Jesse.Ind.abs (x - sum w / (p : Rat)))) / (p : Rat)
      (md = 0 → v = 0) ∧ (md ≠ 0 → v = Spec.Ind.cciOf t (sum w / (p : Rat)) md) := by
  obtain ⟨hi, hpi, hw⟩ := of_trailing_some h
  unfold cciWin at hw
  rw [getLast?_window p i _ hi hp0 hpi] at hw
  dsimp only at hw
  refine ⟨_, List.getElem?_eq_getElem hi, hpi, fun hz => ?_, fun hnz => ?_⟩
  · rw [if_pos hz] at hw
    exact (Option.some.inj hw).symm
  · rw [if_neg hnz] at hw
    exact (Option.some.inj hw).symm

/-- TRIMA: the normalised triangular weights sum to one — the value is a weighted MEAN of the window -/
theorem trima_weights_sum_one (p : Nat) (h : sum (trimaWeights p) ≠ 0) :
    sum ((trimaWeights p).map (· / sum (trimaWeights p))) = 1 := by
  rw [sum_map_div]; exact div_self h

/-- TRIMA: every defined value is the dot product of its trailing window with the normalised triangular weights -/
theorem trima_def (p : Nat) (xs : List Rat) (i : Nat) (hi : i < xs.length) (hpi : p ≤ i + 1) :
    (trima p xs)[i]? = some (some (dot (window p i xs) ((trimaWeights p).map (· / sum (trimaWeights p))))) :=
  trailing_getElem?_of_le _ _ _ _ hi hpi

/-- non-vacuity: the triangular weights of periods 4 and 5 are 1 2 2 1 and 1 2 3 2 1 -/
example : trimaWeights 4 = [1, 2, 2, 1] ∧ trimaWeights 5 = [1, 2, 3, 2, 1] := by decide +kernel

theorem sma_homogeneous (p : Nat) (c : Rat) (xs : List Rat) :
    sma p (xs.map (c * ·)) = (sma p xs).map (oscale c) := by
  unfold sma
  rw [trailing_hom p _ c (fun w => by simp [dot_map_mul])]
  rfl

theorem wma_homogeneous (p : Nat) (c : Rat) (xs : List Rat) :
    wma p (xs.map (c * ·)) = (wma p xs).map (oscale c) := by
  unfold wma
  rw [trailing_hom p _ c (fun w => by simp [dot_map_mul, mul_div_assoc])]
  rfl

/-- seed and recurrence of `ema` are both linear -/
theorem ema_homogeneous (p : Nat) (c : Rat) (xs : List Rat) (hp : 0 < p) :
    ema p (xs.map (c * ·)) = (ema p xs).map (oscale c) := by
  unfold ema
  rw [seeded_hom p _ c (fun a b => by unfold emaUpd; ring)]
  rfl

example : sma 2 ([1, 2, 4].map ((3 : Rat) * ·)) = (sma 2 [1, 2, 4]).map (oscale 3) := by decide +kernel

/-- `ma(candles, period, matype, …)`: the if/elif chain re-read from ma.py on every run sends every
    matype to the function its docstring names (documented matypes that are not dispatched are exactly
    those for which `ma` raises), and dispatches nothing the docstring does not list. -/
theorem ma_dispatch :
    maDocstring.all (fun e => maInvalid.contains e.1 || maDispatch.any (fun d => d.1 == e.1 && d.2.1 == e.2)) = true
    ∧ maDispatch.all (fun d => maDocstring.contains (d.1, d.2.1) && !maInvalid.contains d.1) = true
    ∧ maDispatch.length ≥ 30 := by
  decide +kernel

end C15

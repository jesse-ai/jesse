/-
  Proofs/C07/Step.lean — the normal simulator: a whole minute and a whole iteration for one symbol.
-/
import Proofs.C07.Pass

namespace C07
open Jesse Jesse.Gen Jesse.Store Spec AggLemmas

section
open Jesse.Eng StoreProto
variable {M : Type} [Inhabited M] (u : UserStrategy M)

theorem simulateMinute_spec (fuel : Nat) (e : Engine M) (sym : Nat) (real : Candle) (t0 : Int) (P : List Candle)
    (hal : AlignedCfg e.cfg sym t0) (hp : EPre e sym t0 real.ts P) :
    EPre (simulateMinute u fuel e sym real) sym t0 real.ts P ∧ (simulateMinute u fuel e sym real).cfg = e.cfg ∧
    ((simulateMinute u fuel e sym real).err.isSome ∨ LInv (simulateMinute u fuel e sym real) sym t0 (P ++ [real])) := by
  fun_cases Eng.simulateMinute u fuel e sym real
  · rename_i h; exact ⟨hp, rfl, Or.inl h⟩
  · rename_i e1 _ hr h
    obtain ⟨h1, _, h3⟩ := matchLoop_spec u fuel e sym real _ _ false t0 real.ts P e.cfg hal rfl rfl (.stored hp)
    rw [hr] at h1 h3
    exact ⟨h3 hp, h1, Or.inl h⟩
  · rename_i e1 _ hr _ e2 e3
    obtain ⟨h1, _, h3⟩ := matchLoop_spec u fuel e sym real _ _ false t0 real.ts P e.cfg hal rfl rfl (.stored hp)
    rw [hr] at h1 h3
    have hl2 : LInv e2 sym t0 (P ++ [real]) := write_minute e1 sym real t0 real.ts P (h1 ▸ hal) (.stored (h3 hp)) rfl
    have hl3 : LInv e3 sym t0 (P ++ [real]) := Closed.setCurrentPrice (LInv.closed sym t0 _) _ _ hl2
    obtain ⟨hcfg, hl⟩ := checkLiquidation_spec u e3 sym real t0 _ (h1 ▸ hal) hl3
    exact ⟨epre_iff.mpr ⟨real, rfl, hl⟩, hcfg.trans h1, Or.inr hl⟩

/-- A WHOLE MINUTE of the normal simulator's matching keeps the pre-invariant, for every strategy: the matching loop,
    REPLACE LAST with the whole minute, the price update and the liquidation check -/
theorem simulateMinute_keeps_pre (fuel : Nat) (e : Engine M) (sym : Nat) (real : Candle) (t0 : Int) (P : List Candle)
    (hal : AlignedCfg e.cfg sym t0) (hp : EPre e sym t0 real.ts P) :
    EPre (simulateMinute u fuel e sym real) sym t0 real.ts P ∧ (simulateMinute u fuel e sym real).cfg = e.cfg :=
  let ⟨h1, h2, _⟩ := simulateMinute_spec u fuel e sym real t0 P hal hp
  ⟨h1, h2⟩

/-- at the end of a minute's matching the symbol's stored 1m rows are the rows stored before the minute followed by the
    WHOLE minute (unless the run has been stopped by an error) -/
theorem simulateMinute_short (fuel : Nat) (e : Engine M) (sym : Nat) (real : Candle) (t0 : Int) (P : List Candle)
    (hal : AlignedCfg e.cfg sym t0) (hp : EPre e sym t0 real.ts P) :
    (storeOf (simulateMinute u fuel e sym real) sym).short = P ++ [real] ∨ (simulateMinute u fuel e sym real).err.isSome :=
  (simulateMinute_spec u fuel e sym real t0 P hal hp).2.2.symm.imp_left (·.short)

/-- ONE ITERATION OF THE NORMAL SIMULATOR FOR ONE SYMBOL, every strategy: if before the iteration the symbol's store holds
    the first `i` (normalised) input rows and satisfies `StoreInv` for every bigger timeframe, then after it — NEW MINUTE,
    any number of fills with their hooks, the liquidation check, CLOSE WINDOW — it holds the first `i + 1` rows and
    satisfies `StoreInv` again, unless the run was stopped by an error. -/
theorem symStep_inv (fuel i : Nat) (e : Engine M) (inputs : List (List Candle)) (sym : Nat) (t0 : Int)
    (hal : AlignedCfg e.cfg sym t0)
    (hin : ∀ j (h : j < (inputs.getD sym []).length), (inputs.getD sym [])[j].ts = t0 + 60000 * (j : Int))
    (hil : i < (inputs.getD sym []).length)
    (hi : EInv e sym t0 ((inputs.getD sym []).take i)) :
    (symStep u fuel i (e, inputs) sym).1.err.isSome ∨
    (EInv (symStep u fuel i (e, inputs) sym).1 sym t0 (((symStep u fuel i (e, inputs) sym).2.getD sym []).take (i + 1)) ∧
     (symStep u fuel i (e, inputs) sym).1.cfg = e.cfg ∧
     ((symStep u fuel i (e, inputs) sym).2.getD sym []).length = (inputs.getD sym []).length ∧
     ∀ j (h : j < ((symStep u fuel i (e, inputs) sym).2.getD sym []).length),
       ((symStep u fuel i (e, inputs) sym).2.getD sym [])[j].ts = t0 + 60000 * (j : Int)) := by
  fun_cases Eng.symStep u fuel i (e, inputs) sym
  · rename_i h; exact Or.inl h
  · exact Or.inl (fail_err _ _)
  · rename_i c hfr cs' e1 e2 e3
    dsimp only at hfr cs' e1 e2 ⊢
    obtain ⟨_, hcts⟩ := fixedRow_ts hin hfr
    have htake := take_set_succ hil c
    have hlen : ((inputs.getD sym []).take i).length = i := by
      rw [List.length_take]; exact Nat.min_eq_left (Nat.le_of_lt hil)
    have hlen1 : ((inputs.getD sym []).take i ++ [c]).length = i + 1 := by rw [List.length_append, hlen]; rfl
    have hget : (inputs.set sym cs').getD sym [] = cs' :=
      getD_set_self _ _ _ fun h => by rw [h] at hil; exact absurd hil (Nat.not_lt_zero _)
    have hl1 := write_minute e sym c t0 c.ts _ hal (.fresh hi (by rw [hcts, hlen])) rfl
    obtain ⟨_, hcfg2, h2⟩ := simulateMinute_spec u fuel e1 sym c t0 _ hal (epre_iff.mpr ⟨c, rfl, hl1⟩)
    obtain ⟨herr3, hinv3⟩ := closeWindows_spec (e := e2) (e' := e3) (sym := sym) (b := i + 1) (c := e.cfg)
      (win := fun tf => Py.slice cs' (some ((i : Int) - ((tf : Int) - 1))) (some ((i : Int) + 1))) rfl
    rcases h2 with herr | hl2
    · exact Or.inl (herr3 herr)
    · rw [hget, htake]
      obtain ⟨r1, r2⟩ := hinv3 _ t0 hcfg2 hal hl2 hlen1 (Nat.succ_pos i) fun tf htf =>
        Py.slice_window cs' _ (i + 1) tf _ _ (by omega) (by omega) htf hlen1 htake
      exact Or.inr ⟨r1, r2, List.length_set, Spaced.set hin hcts⟩

end

end C07

/-
  Proofs/C07/Run.lean — iterations over all symbols and whole runs of both simulators; the chunk size of the fast
  simulator divides every timeframe.
-/
import Proofs.C07.Step
import Proofs.C07.Chunk

namespace C07
open Jesse Jesse.Gen Jesse.Store Spec AggLemmas

section
open Jesse.Eng StoreProto
variable {M : Type} [Inhabited M] (u : UserStrategy M)

/-- the state of all symbols in the middle of an iteration: the first `k` symbols hold `b` rows, the others `a` -/
structure MidInv (e : Engine M) (inputs : List (List Candle)) (t0 : Int) (nsym a b k : Nat) (len : Nat → Nat) : Prop where
  done : ∀ s, s < k → s < nsym → EInv e s t0 ((inputs.getD s []).take b)
  todo : ∀ s, k ≤ s → s < nsym → EInv e s t0 ((inputs.getD s []).take a)
  spaced : ∀ s, s < nsym → Spaced t0 (inputs.getD s [])
  lens : ∀ s, s < nsym → (inputs.getD s []).length = len s

/-- one iteration of either simulator, any number of symbols: the per-symbol loop, abstracted over the per-symbol step
    `f` (`symStep` / `symSkip`, taking a symbol from `a` rows to `b` rows), then the route step -/
theorem iteration_all (fuel i bd a b : Nat) (c : Cfg) (e : Engine M) (inputs : List (List Candle)) (t0 : Int) (len : Nat → Nat)
    (f : Engine M × List (List Candle) → Nat → Engine M × List (List Candle))
    (hskip : ∀ acc s, acc.1.err.isSome → f acc s = acc)
    (hown : ∀ acc k s, s ≠ k → (f acc k).2.getD s [] = acc.2.getD s [] ∧
      ∀ rows, EInv acc.1 s t0 rows → EInv (f acc k).1 s t0 rows)
    (hstep : ∀ e1 ins1 k, k < c.nsym → e1.cfg = c → Spaced t0 (ins1.getD k []) → (ins1.getD k []).length = len k →
      EInv e1 k t0 ((ins1.getD k []).take a) →
      (f (e1, ins1) k).1.err.isSome ∨
      (EInv (f (e1, ins1) k).1 k t0 (((f (e1, ins1) k).2.getD k []).take b) ∧ (f (e1, ins1) k).1.cfg = e1.cfg ∧
       ((f (e1, ins1) k).2.getD k []).length = (ins1.getD k []).length ∧ Spaced t0 ((f (e1, ins1) k).2.getD k [])))
    (hc : e.cfg = c) (hi : AllInv e inputs t0 c.nsym a len) :
    (routesStep u fuel ((List.range c.nsym).foldl f (e, inputs)).1 i bd).err.isSome ∨
    ((routesStep u fuel ((List.range c.nsym).foldl f (e, inputs)).1 i bd).cfg = c ∧
     AllInv (routesStep u fuel ((List.range c.nsym).foldl f (e, inputs)).1 i bd)
       ((List.range c.nsym).foldl f (e, inputs)).2 t0 c.nsym b len) := by
  have hsym : ∀ (acc : Engine M × List (List Candle)) k, k < c.nsym →
      acc.1.cfg = c ∧ MidInv acc.1 acc.2 t0 c.nsym a b k len →
      (f acc k).1.err.isSome ∨ ((f acc k).1.cfg = c ∧ MidInv (f acc k).1 (f acc k).2 t0 c.nsym a b (k + 1) len) := by
    rintro ⟨e1, ins1⟩ k hkn ⟨hcfg, hm⟩
    refine (hstep e1 ins1 k hkn hcfg (hm.spaced k hkn) (hm.lens k hkn) (hm.todo k (le_refl k) hkn)).imp_right ?_
    rintro ⟨g1, g2, g3, g4⟩
    refine ⟨g2.trans hcfg, ?_, ?_, ?_, ?_⟩
    · intro s hs hsn
      by_cases hsk : s = k
      · subst hsk; exact g1
      · rw [(hown (e1, ins1) k s hsk).1]
        exact (hown (e1, ins1) k s hsk).2 _ (hm.done s (by omega) hsn)
    · intro s hs hsn
      have hsk : s ≠ k := by omega
      rw [(hown (e1, ins1) k s hsk).1]
      exact (hown (e1, ins1) k s hsk).2 _ (hm.todo s (by omega) hsn)
    · intro s hsn
      by_cases hsk : s = k
      · subst hsk; exact g4
      · rw [(hown (e1, ins1) k s hsk).1]; exact hm.spaced s hsn
    · intro s hsn
      by_cases hsk : s = k
      · subst hsk; exact g3.trans (hm.lens s hsn)
      · rw [(hown (e1, ins1) k s hsk).1]; exact hm.lens s hsn
  have hfold := foldl_range_inv f (·.1.err.isSome)
    (fun k acc => acc.1.cfg = c ∧ MidInv acc.1 acc.2 t0 c.nsym a b k len) (e, inputs) c.nsym
    ⟨hc, fun s hs _ => absurd hs (Nat.not_lt_zero s), fun s _ hsn => hi.inv s hsn, hi.spaced, hi.lens⟩
    (fun acc k h => by rw [hskip acc k h]; exact h) hsym c.nsym (le_refl _)
  rcases hfold with herr | ⟨hcfg, hm⟩
  · exact Or.inl (routesStep_err u fuel i bd herr)
  · exact Or.inr ⟨(cfg_closed c).routesStep u fuel i bd hcfg, fun s hsn =>
      (EInv.closed s t0 _).routesStep u fuel i bd (hm.done s hsn hsn), hm.spaced, hm.lens⟩

theorem stepAt_all (fuel i : Nat) (e : Engine M) (inputs : List (List Candle)) (t0 : Int) (len : Nat → Nat)
    (hal : ∀ s, s < e.cfg.nsym → AlignedCfg e.cfg s t0) (hil : ∀ s, s < e.cfg.nsym → i < len s)
    (hi : AllInv e inputs t0 e.cfg.nsym i len) :
    (stepAt u fuel inputs e i).1.err.isSome ∨
    ((stepAt u fuel inputs e i).1.cfg = e.cfg ∧
     AllInv (stepAt u fuel inputs e i).1 (stepAt u fuel inputs e i).2 t0 e.cfg.nsym (i + 1) len) := by
  fun_cases Eng.stepAt u fuel inputs e i
  · rename_i h; exact Or.inl h
  · exact iteration_all u fuel i (i + 1) i (i + 1) e.cfg _ inputs t0 len (symStep u fuel i) (fun _ _ h => if_pos h)
      (fun acc k s hsk => ⟨StoreFrame.symStep_inputs u fuel i acc k s hsk,
        fun rows => (EInv.closedAt hsk t0 rows).symStep u fuel i acc⟩)
      (fun e1 ins1 k hk hc hsp hlen hi => symStep_inv u fuel i e1 ins1 k t0 (hc ▸ hal k hk) hsp (hlen ▸ hil k hk) hi)
      rfl ⟨fun s hsn => EInv.of_view (e := e) (.of_stores rfl rfl) (hi.inv s hsn), hi.spaced, hi.lens⟩

theorem skipAt_all (fuel i step S : Nat) (e : Engine M) (inputs : List (List Candle)) (t0 : Int) (len : Nat → Nat)
    (hal : ∀ s, s < e.cfg.nsym → AlignedCfg e.cfg s t0) (hstep : 0 < step) (hstepS : step ≤ S) (hiS : i % S = 0)
    (hdiv : ∀ s, s < e.cfg.nsym → ∀ m ∈ tfsRaw e.cfg s, S ∣ m)
    (hil : ∀ s, s < e.cfg.nsym → i + step ≤ len s)
    (hi : AllInv e inputs t0 e.cfg.nsym i len) :
    (skipAt u fuel inputs e i step).1.err.isSome ∨
    ((skipAt u fuel inputs e i step).1.cfg = e.cfg ∧
     AllInv (skipAt u fuel inputs e i step).1 (skipAt u fuel inputs e i step).2 t0 e.cfg.nsym (i + step) len) := by
  fun_cases Eng.skipAt u fuel inputs e i step
  · rename_i h; exact Or.inl h
  · exact iteration_all u fuel i (i + step) i (i + step) e.cfg e inputs t0 len (symSkip u fuel i step)
      (fun _ _ h => if_pos h)
      (fun acc k s hsk => ⟨StoreFrame.symSkip_inputs u fuel i step acc k s hsk,
        fun rows => (EInv.closedAt hsk t0 rows).symSkip u fuel i step acc⟩)
      (fun e1 ins1 k hk hc hsp hlen hi => symSkip_inv u fuel i step S e1 ins1 k t0 (hc ▸ hal k hk) hstep hstepS hiS
        (hc ▸ hdiv k hk) hsp (hlen ▸ hil k hk) hi)
      rfl hi

/-- THE RUN OF THE NORMAL SIMULATOR — any number of symbols, any set of timeframes per symbol, EVERY strategy: if the
    session starts on a boundary of every timeframe, every symbol's input minutes are evenly spaced and the stores start
    empty, then after each of the first `n` iterations every symbol's store holds exactly its first `n` normalised input
    rows and satisfies `StoreInv` for each of its timeframes — or the run has been stopped by an error. -/
theorem runStepN_all (fuel : Nat) (inputs : List (List Candle)) (e : Engine M) (t0 : Int) (len : Nat → Nat)
    (hal : ∀ s, s < e.cfg.nsym → AlignedCfg e.cfg s t0)
    (hi : AllInv e inputs t0 e.cfg.nsym 0 len) :
    ∀ n, (∀ s, s < e.cfg.nsym → n ≤ len s) →
      (runStepN u fuel inputs e n).1.err.isSome ∨
      ((runStepN u fuel inputs e n).1.cfg = e.cfg ∧
       AllInv (runStepN u fuel inputs e n).1 (runStepN u fuel inputs e n).2 t0 e.cfg.nsym n len) := by
  intro n hn
  refine foldl_range_inv (fun acc i => stepAt u fuel acc.2 acc.1 i) (·.1.err.isSome)
    (fun k acc => acc.1.cfg = e.cfg ∧ AllInv acc.1 acc.2 t0 e.cfg.nsym k len) _ n
    ⟨rfl, fun s hsn => EInv.of_view (e := e) (.of_stores rfl rfl) (hi.inv s hsn), hi.spaced, hi.lens⟩
    (fun acc k h => by rw [stepAt_of_err u fuel k acc.2 h]; exact h) (fun acc k hk ⟨h2, h1⟩ => ?_) n (le_refl n)
  have := stepAt_all u fuel k acc.1 acc.2 t0 len (h2 ▸ hal) (h2 ▸ fun s hs => by have := hn s hs; omega) (h2 ▸ h1)
  rwa [h2] at this

/-- THE RUN (normal simulator, single-symbol session, every timeframe of the symbol, EVERY strategy): if the session
    starts on a boundary of every timeframe, the input minutes are evenly spaced and the store starts empty with the
    invariant, then after each of the first `n` iterations the stored 1m rows are the first `n` normalised input rows and
    every bigger timeframe satisfies `StoreInv` — hence (`get_candles_spec`, `get_current_candle_spec`) a reader gets
    exactly one candle per started window, each the aggregate of its minutes — or the run has been stopped by an error. -/
theorem runStepN_inv (fuel : Nat) (inputs : List (List Candle)) (e : Engine M) (t0 : Int)
    (hn : e.cfg.nsym = 1) (hal : AlignedCfg e.cfg 0 t0)
    (hin : ∀ j (h : j < (inputs.getD 0 []).length), (inputs.getD 0 [])[j].ts = t0 + 60000 * (j : Int))
    (hi : EInv e 0 t0 []) :
    ∀ n, n ≤ (inputs.getD 0 []).length →
      (runStepN u fuel inputs e n).1.err.isSome ∨
      (EInv (runStepN u fuel inputs e n).1 0 t0 (((runStepN u fuel inputs e n).2.getD 0 []).take n) ∧
       (runStepN u fuel inputs e n).1.cfg = e.cfg ∧
       ((runStepN u fuel inputs e n).2.getD 0 []).length = (inputs.getD 0 []).length ∧
       ∀ j (h : j < ((runStepN u fuel inputs e n).2.getD 0 []).length),
         ((runStepN u fuel inputs e n).2.getD 0 [])[j].ts = t0 + 60000 * (j : Int)) := by
  intro n hle
  have h1 : ∀ s, s < e.cfg.nsym → s = 0 := fun s hs => by omega
  refine (runStepN_all u fuel inputs e t0 (fun _ => (inputs.getD 0 []).length) (fun s hs => by obtain rfl := h1 s hs; exact hal)
    ⟨fun s hs => by obtain rfl := h1 s hs; exact hi, fun s hs => by obtain rfl := h1 s hs; exact hin,
      fun s hs => by obtain rfl := h1 s hs; rfl⟩ n fun _ _ => hle).imp_right ?_
  rintro ⟨hc, ha⟩
  exact ⟨ha.inv 0 (by omega), hc, ha.lens 0 (by omega), ha.spaced 0 (by omega)⟩

theorem chunk_bounds {n step k : Nat} (hstep : 0 < step) (hk : k * step < n) :
    0 < min step (n - k * step) ∧ k * step + min step (n - k * step) ≤ n ∧
    k * step + min step (n - k * step) = min ((k + 1) * step) n := by
  rw [Nat.add_mul, Nat.one_mul]; omega

/-- THE RUN OF THE FAST SIMULATOR — any number of symbols (input arrays of one common length `n`), any set of timeframes
    per symbol, all of them multiples of the chunk size `step`, EVERY strategy, the premises of `runStepN_all`
    (boundary start, even spacing, empty stores): after each of the first `k` chunks every symbol's store holds exactly
    its first `min (k * step) n` input rows (the first row of every chunk normalised) and satisfies `StoreInv` for each
    of its timeframes — or the run has been stopped by an error. -/
theorem runSkipN_all (fuel : Nat) (inputs : List (List Candle)) (e : Engine M) (t0 : Int) (step : Nat)
    (hal : ∀ s, s < e.cfg.nsym → AlignedCfg e.cfg s t0) (hstep : 0 < step)
    (hdiv : ∀ s, s < e.cfg.nsym → ∀ m ∈ tfsRaw e.cfg s, step ∣ m)
    (hi : AllInv e inputs t0 e.cfg.nsym 0 (fun _ => (inputs.getD 0 []).length)) :
    ∀ k, (∀ j, j < k → j * step < (inputs.getD 0 []).length) →
      (runSkipN u fuel inputs e step k).1.err.isSome ∨
      ((runSkipN u fuel inputs e step k).1.cfg = e.cfg ∧
       AllInv (runSkipN u fuel inputs e step k).1 (runSkipN u fuel inputs e step k).2 t0 e.cfg.nsym
         (min (k * step) (inputs.getD 0 []).length) (fun _ => (inputs.getD 0 []).length)) := by
  intro K hK
  refine foldl_range_inv (fun acc j => skipAt u fuel acc.2 acc.1 (j * step) (min step ((inputs.getD 0 []).length - j * step)))
    (·.1.err.isSome)
    (fun k acc => acc.1.cfg = e.cfg ∧ AllInv acc.1 acc.2 t0 e.cfg.nsym (min (k * step) (inputs.getD 0 []).length)
      (fun _ => (inputs.getD 0 []).length)) _ K
    ⟨rfl, fun s hsn => EInv.of_view (e := e) (.of_stores rfl rfl) (by simpa using hi.inv s hsn), hi.spaced, hi.lens⟩
    (fun acc k h => by rw [skipAt_of_err u fuel _ _ acc.2 h]; exact h) (fun acc k hk ⟨h2, h1⟩ => ?_) K (le_refl K)
  obtain ⟨hpos, hle, hnext⟩ := chunk_bounds hstep (hK k hk)
  rw [Nat.min_eq_left (le_of_lt (hK k hk))] at h1
  have := skipAt_all u fuel (k * step) (min step ((inputs.getD 0 []).length - k * step)) step acc.1 acc.2 t0
    (fun _ => (inputs.getD 0 []).length) (h2 ▸ hal) hpos (Nat.min_le_left _ _) (Nat.mul_mod_left k step)
    (h2 ▸ hdiv) (fun _ _ => hle) (h2 ▸ h1)
  rwa [h2, hnext] at this

theorem gcd_foldl_dvd_mem (l : List Nat) (a x : Nat) (hx : x ∈ l) : l.foldl Nat.gcd a ∣ x :=
  foldl_hits (P := (· ∣ x)) (Q := fun _ => True) (fun _ _ _ => trivial) (fun b _ => Nat.gcd_dvd_right b x)
    (fun b y h => Nat.dvd_trans (Nat.gcd_dvd_left b y) h) hx trivial

/-- `_calculate_minimum_candle_step`: the gcd of all route timeframes divides every bigger timeframe of every symbol -/
theorem gcdList_dvd_tfsRaw (cfg : Cfg) (sym : Nat) (m : Nat) (hm : m ∈ tfsRaw cfg sym) :
    gcdList ((cfg.routes ++ cfg.dataRoutes).map (·.tf)) ∣ m := by
  unfold gcdList
  apply gcd_foldl_dvd_mem
  unfold tfsRaw at hm
  obtain ⟨r, hr, rfl⟩ := List.mem_map.mp hm
  exact List.mem_map.mpr ⟨r, (List.mem_filter.mp hr).1, rfl⟩

/-- THE RUN OF THE FAST SIMULATOR with its own chunk size (the gcd of the route timeframes): `runSkipN_all` without the
    divisibility assumption. -/
theorem runSkipN_gcd (fuel : Nat) (inputs : List (List Candle)) (e : Engine M) (t0 : Int)
    (hal : ∀ s, s < e.cfg.nsym → AlignedCfg e.cfg s t0)
    (hstep : 0 < gcdList ((e.cfg.routes ++ e.cfg.dataRoutes).map (·.tf)))
    (hi : AllInv e inputs t0 e.cfg.nsym 0 (fun _ => (inputs.getD 0 []).length)) :
    ∀ k, (∀ j, j < k → j * gcdList ((e.cfg.routes ++ e.cfg.dataRoutes).map (·.tf)) < (inputs.getD 0 []).length) →
      (runSkipN u fuel inputs e (gcdList ((e.cfg.routes ++ e.cfg.dataRoutes).map (·.tf))) k).1.err.isSome ∨
      ((runSkipN u fuel inputs e (gcdList ((e.cfg.routes ++ e.cfg.dataRoutes).map (·.tf))) k).1.cfg = e.cfg ∧
       AllInv (runSkipN u fuel inputs e (gcdList ((e.cfg.routes ++ e.cfg.dataRoutes).map (·.tf))) k).1
         (runSkipN u fuel inputs e (gcdList ((e.cfg.routes ++ e.cfg.dataRoutes).map (·.tf))) k).2 t0 e.cfg.nsym
         (min (k * gcdList ((e.cfg.routes ++ e.cfg.dataRoutes).map (·.tf))) (inputs.getD 0 []).length)
         (fun _ => (inputs.getD 0 []).length)) :=
  runSkipN_all u fuel inputs e t0 _ hal hstep (fun s _ m hm => gcdList_dvd_tfsRaw e.cfg s m hm) hi

end

end C07

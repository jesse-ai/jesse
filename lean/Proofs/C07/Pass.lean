/-
  Proofs/C07/Pass.lean — what both simulators share below a minute: a pass of window writes over the timeframes of a
  symbol (PUBLISH, CLOSE WINDOW), the 1m write of a minute, the liquidation check, the matching loop.
  Naming in Pass, Step and Chunk: where a function has both, `X_spec` is the form the proofs use (one statement per
  function, hypotheses like `Spaced t0 (P ++ cs)`) and `X_inv` / `X_keeps_*` / `X_short` are the property's clauses (index
  arithmetic, one conclusion each), derived from it in a few lines; `symStep_inv` and `symSkip_inv` are both at once, and
  `close_fold_inv` comes from `windowPass_spec` directly.  (`close_step_inv` is a proof form in spite of its name, and the
  name matters: the `match` in the statement of `close_fold_inv` is the matcher `close_step_inv.match_1`.)
-/
import Proofs.C07.Inv
import Proofs.Lemmas.StoreFrame
import Proofs.C08

namespace C07
open Jesse Jesse.Gen Jesse.Store Spec AggLemmas

section
open Jesse.Eng StoreProto
variable {M : Type}

/-! ### a pass of window writes over the timeframes of a symbol

PUBLISH (`_update_all_routes_a_partial_candle`) and CLOSE WINDOW (the end of an iteration of either simulator) are
both a loop over timeframes, each step of which adds the aggregate of the window that contains the last stored
minute to the timeframe's array — or does nothing, when that window is still forming. -/

def WindowWrite (sym : Nat) (rows : List Candle) (tf : Nat) (e e' : Engine M) : Prop :=
  (rows.length % tf ≠ 0 ∧ e' = e) ∨
    ∃ g, generate tf (rows.drop (k0 tf rows * tf)) = .ok g ∧ e' = addCandle e sym tf g

/-- what a pass over the timeframes `L` (of the symbol's timeframes `T`) leaves of a store whose 1m rows are `rows` -/
structure Passed (sym : Nat) (rows : List Candle) (T L : List Nat) (e e' : Engine M) : Prop where
  hs : sym < e'.stores.length
  short : (storeOf e' sym).short = rows
  pre : ∀ m ∈ T, PreInv m rows (longOf (storeOf e' sym) m)
  /-- a pass over `tf :: L` is a step for `tf` and a pass over `L` (`Passed.cons`), so `inv` has to carry what earlier
      steps established through the later ones: hence the first disjunct -/
  inv : ∀ m, StoreInv m rows (longOf (storeOf e sym) m) ∨ m ∈ L → StoreInv m rows (longOf (storeOf e' sym) m)
  cfg : e'.cfg = e.cfg
  err : e'.err = e.err

theorem Passed.cons {sym tf : Nat} {rows : List Candle} {T L : List Nat} {e e1 e' : Engine M}
    (h1 : Passed sym rows T [tf] e e1) (h2 : Passed sym rows T L e1 e') : Passed sym rows T (tf :: L) e e' where
  hs := h2.hs
  short := h2.short
  pre := h2.pre
  inv m hm := by
    rcases hm with h | h
    · exact h2.inv m (Or.inl (h1.inv m (Or.inl h)))
    · rcases List.mem_cons.mp h with rfl | h
      · exact h2.inv m (Or.inl (h1.inv m (Or.inr (List.mem_singleton_self m))))
      · exact h2.inv m (Or.inr h)
  cfg := h2.cfg.trans h1.cfg
  err := h2.err.trans h1.err

theorem WindowWrite.passed {sym tf : Nat} {t0 : Int} {rows : List Candle} {T : List Nat} {e e' : Engine M}
    (h : WindowWrite sym rows tf e e') (ht0 : 0 < t0) (hsp : Spaced t0 rows) (hne : rows ≠ []) (h0 : 0 < tf) (h1 : tf ≠ 1)
    (htf : tf ∈ T) (hs : sym < e.stores.length) (hsh : (storeOf e sym).short = rows)
    (hpre : ∀ m ∈ T, PreInv m rows (longOf (storeOf e sym) m)) : Passed sym rows T [tf] e e' := by
  have key : sym < e'.stores.length ∧ (storeOf e' sym).short = rows ∧ StoreInv tf rows (longOf (storeOf e' sym) tf) ∧
      (∀ m, m ≠ tf → longOf (storeOf e' sym) m = longOf (storeOf e sym) m) ∧ e'.cfg = e.cfg ∧ e'.err = e.err := by
    rcases h with ⟨hb, rfl⟩ | ⟨g, hg, rfl⟩
    · exact ⟨hs, hsh, inv_of_pre_forming tf rows _ h0 hb (hpre tf htf), fun _ _ => rfl, rfl, rfl⟩
    · rw [StoreFrame.storeOf_addCandle_long e sym tf g hs h1]
      refine ⟨by rw [StoreFrame.stores_length_addCandle]; exact hs, hsh, ?_,
        fun m hm => StoreFrame.longOf_setLong_other _ tf m _ hm, rfl, rfl⟩
      rw [StoreFrame.longOf_setLong_same]
      exact inv_of_window_candle tf rows _ t0 g h0 hne ht0 hsp (hpre tf htf) hg
  obtain ⟨hs', hsh', hinv, hoth, hcfg, herr⟩ := key
  refine ⟨hs', hsh', fun m hm => ?_, fun m hm => ?_, hcfg, herr⟩ <;> by_cases hmt : m = tf
  · subst hmt; exact pre_of_inv m rows _ h0 hne hinv
  · rw [hoth m hmt]; exact hpre m hm
  · subst hmt; exact hinv
  · rw [hoth m hmt]; exact hm.resolve_right fun h => hmt (List.mem_singleton.mp h)

/-- Stated for an `e'` equal to the result: a caller identifies the model's own loop with `L.foldl f e` once, by `rfl`,
    instead of once in every conjunct — comparing two copies of the loop body is what is slow to check. -/
theorem windowPass_spec {sym : Nat} {t0 : Int} {rows : List Candle} (ht0 : 0 < t0) (hsp : Spaced t0 rows) (hne : rows ≠ [])
    (T : List Nat) (hT : ∀ m ∈ T, 0 < m ∧ m ≠ 1) (f : Engine M → Nat → Engine M)
    (hf : ∀ e, ∀ tf ∈ T, sym < e.stores.length → (storeOf e sym).short = rows → WindowWrite sym rows tf e (f e tf))
    (L : List Nat) (hL : ∀ m ∈ L, m ∈ T) :
    ∀ e e' : Engine M, e' = L.foldl f e → sym < e.stores.length → (storeOf e sym).short = rows →
      (∀ m ∈ T, PreInv m rows (longOf (storeOf e sym) m)) → Passed sym rows T L e e' := by
  induction L with
  | nil => rintro e _ rfl hs hsh hpre; exact ⟨hs, hsh, hpre, fun m h => h.resolve_right List.not_mem_nil, rfl, rfl⟩
  | cons tf rest ih =>
    rintro e _ rfl hs hsh hpre
    have htf := hL tf List.mem_cons_self
    have h1 := (hf e tf htf hs hsh).passed ht0 hsp hne (hT tf htf).1 (hT tf htf).2 htf hs hsh hpre
    exact h1.cons (ih (fun m hm => hL m (List.mem_cons_of_mem _ hm)) (f e tf) _ rfl h1.hs h1.short h1.pre)

theorem close_step_inv (e : Engine M) (sym b tf : Nat) (win rows : List Candle) (htf : 0 < tf) (hb0 : 0 < b)
    (hlen : rows.length = b) (hwin : tf ≤ b → win = rows.drop (b - tf)) :
    WindowWrite sym rows tf e (if b % tf = 0 then
        match generateCandle tf win False with
        | .ok g => addCandle e sym tf g
        | .error k => fail e k
      else e) := by
  have hne : rows ≠ [] := fun h => Nat.ne_of_gt hb0 (by rw [← hlen, h]; rfl)
  by_cases hb : b % tf = 0
  · obtain ⟨_, hfull⟩ := k0_of_boundary tf rows hne (hlen ▸ hb)
    obtain ⟨g, hg⟩ := generate_window htf hne
    have hk : b - tf = k0 tf rows * tf := by rw [← hlen, ← hfull, Nat.add_sub_cancel]
    refine Or.inr ⟨g, hg, ?_⟩
    rw [if_pos hb, hwin (by rw [← hlen, ← hfull]; exact Nat.le_add_left _ _), hk,
      generate_complete_eq tf _ (by rw [List.length_drop, ← hfull, Nat.add_sub_cancel_left]), hg]
  · exact Or.inl ⟨hlen ▸ hb, if_neg hb⟩

/-- the 1m write of a minute that is not stored yet (NEW MINUTE) or is the last stored one (REPLACE LAST) -/
theorem write_minute (e : Engine M) (sym : Nat) (c : Candle) (t0 ts : Int) (P : List Candle)
    (hal : AlignedCfg e.cfg sym t0) (hp : FPre e sym t0 ts P) (hc : c.ts = ts) :
    LInv (addCandle e sym 1 c) sym t0 (P ++ [c]) := by
  have key : ∀ rows, sym < e.stores.length → (storeOf e sym).short = rows → Store.addCandle rows c = P ++ [c] →
      Spaced t0 (P ++ [c]) → (∀ m ∈ tfsRaw e.cfg sym, PreInv m (P ++ [c]) (longOf (storeOf e sym) m)) →
      LInv (addCandle e sym 1 c) sym t0 (P ++ [c]) := by
    intro rows hs hsh hadd hsp hpre
    have hst := StoreFrame.storeOf_addCandle_short e sym c hs
    rw [hsh, hadd] at hst
    exact ⟨by rw [StoreFrame.stores_length_addCandle]; exact hs, by rw [hst], hsp, fun m hm => by rw [hst]; exact hpre m hm⟩
  cases hp with
  | fresh hi hts =>
    have hc' : c.ts = t0 + 60000 * (P.length : Int) := hc.trans hts
    exact key P hi.hs hi.short (addCandle_spaced_next hal.t0_pos hi.spaced hc') (Spaced.concat_iff.mpr ⟨hi.spaced, hc'⟩)
      fun m hm => pre_of_new_minute m P _ c (hal.tf_pos hm) (hi.inv m hm)
  | stored hp =>
    obtain ⟨l, hl, hs, hsh, hsp, hpre⟩ := epre_iff.mp hp
    obtain ⟨hadd, hsp'⟩ := addCandle_spaced_last hal.t0_pos hsp (hc.trans hl.symm)
    refine key _ hs hsh hadd hsp' fun m hm => ?_
    have := pre_of_replace_last m (P ++ [l]) _ c l (hal.tf_pos hm) (by simp) (hc.trans hl.symm) (hpre m hm)
    rwa [List.dropLast_concat] at this

/-- PUBLISH for one timeframe, on a store whose last 1m row carries the candle's timestamp: the window selected by
    timestamp arithmetic is the window of that row -/
theorem publish_write (e : Engine M) (sym tf : Nat) (c l : Candle) (rows : List Candle) (t0 : Int) (htf : 0 < tf)
    (ht0 : 0 < t0) (hal : t0 % ((tf : Int) * 60000) = 0) (hsp : Spaced t0 rows) (hlast : rows.getLast? = some l)
    (hc : c.ts = l.ts) (hsh : (storeOf e sym).short = rows) :
    WindowWrite sym rows tf e
      (match Store.generate tf ((storeOf e sym).short.drop
          ((storeOf e sym).short.length - (((c.ts % ((tf : Int) * 60000)) / 60000).toNat + 1))) with
        | .ok g => addCandle e sym tf g
        | .error k => fail e k) := by
  obtain ⟨g, hg⟩ := generate_window (m := tf) htf (rows := rows) (by rintro rfl; simp at hlast)
  rw [hsh, hc, needed_rows tf rows t0 l htf (le_of_lt ht0) hal hsp hlast, hg]
  exact Or.inr ⟨g, hg, rfl⟩

/-- the state `e'` after a PUBLISH on `e` that left the 1m rows `rows` -/
structure Published (e e' : Engine M) (sym : Nat) (t0 : Int) (rows : List Candle) : Prop where
  linv : LInv e' sym t0 rows
  inv : ∀ m ∈ tfsRaw e.cfg sym, StoreInv m rows (longOf (storeOf e' sym) m)
  cfg : e'.cfg = e.cfg

theorem publish_spec (e : Engine M) (sym : Nat) (c : Candle) (t0 ts : Int) (P : List Candle)
    (hal : AlignedCfg e.cfg sym t0) (hp : FPre e sym t0 ts P) (hc : c.ts = ts) :
    Published e (updatePartialCandle e sym c) sym t0 (P ++ [c]) := by
  obtain ⟨hs, hsh, hsp, hpre⟩ := write_minute e sym c t0 ts P hal hp hc
  have r := windowPass_spec hal.t0_pos hsp (by simp) (tfsRaw e.cfg sym)
    (fun m hm => ⟨hal.tf_pos hm, tfsRaw_ne_one hm⟩) _
    (fun e' tf htf _ hsh' =>
      publish_write e' sym tf c c _ t0 (hal.tf_pos htf) hal.t0_pos (hal.on_boundary htf) hsp (by simp) rfl hsh')
    (tfsRaw e.cfg sym) (fun _ h => h) (addCandle e sym 1 c) (updatePartialCandle e sym c) rfl hs hsh hpre
  exact ⟨⟨r.hs, r.short, hsp, fun m hm => r.pre m (r.cfg ▸ hm)⟩, fun m hm => r.inv m (Or.inr hm), r.cfg⟩

/-- THE ENGINE'S PUBLISH ESTABLISHES THE INVARIANT FOR EVERY TIMEFRAME OF THE SYMBOL: if the store of the symbol
    satisfied `PreInv` for each of its bigger timeframes (which NEW MINUTE and REPLACE LAST keep), its minutes are evenly
    spaced and the session starts on a boundary of each of these timeframes, then after
    `_update_all_routes_a_partial_candle` with a candle carrying the last stored minute's timestamp the 1m array ends
    with that candle and EVERY bigger timeframe satisfies `StoreInv`.  So every hook fired by the execution that follows
    reads, through `get_candles` / `get_current_candle`, exactly one candle per started window, each the aggregate of
    its stored minutes (`get_candles_spec`), because no strategy writes the store. -/
theorem publish_establishes_inv (e : Engine M) (sym : Nat) (c last : Candle) (t0 : Int)
    (hs : sym < e.stores.length) (ht0 : 0 < t0)
    (hT : ∀ m ∈ tfsRaw e.cfg sym, 0 < m ∧ t0 % ((m : Int) * 60000) = 0)
    (hsp : Spaced t0 (storeOf e sym).short)
    (hlast : (storeOf e sym).short.getLast? = some last) (hts : c.ts = last.ts)
    (hpre : ∀ m ∈ tfsRaw e.cfg sym, PreInv m (storeOf e sym).short (longOf (storeOf e sym) m)) :
    (storeOf (updatePartialCandle e sym c) sym).short = (storeOf e sym).short.dropLast ++ [c] ∧
    Spaced t0 (storeOf (updatePartialCandle e sym c) sym).short ∧
    ∀ m ∈ tfsRaw e.cfg sym, StoreInv m (storeOf (updatePartialCandle e sym c) sym).short
      (longOf (storeOf (updatePartialCandle e sym c) sym) m) := by
  have h := publish_spec e sym c t0 last.ts _ ⟨ht0, hT⟩ (.stored ⟨hs, rfl, hsp, ⟨last, hlast, rfl⟩, hpre⟩) hts
  rw [h.linv.short]
  exact ⟨rfl, h.linv.spaced, h.inv⟩

/-- `c` is a parameter of its own because the model walks `tfsOf acc.1.cfg`, the configuration before the minute or
    chunk, while `e` is the engine after it; `win` is a function because the two simulators slice the window out of the
    input array differently (`Py.slice_window` reads both slices); the conclusion is a pair because a stopped run (first
    part) has no invariant left to state. -/
theorem closeWindows_spec {e e' : Engine M} {sym b : Nat} {win : Nat → List Candle} {c : Cfg}
    (he' : e' = (tfsOf c sym).foldl (fun (e : Engine M) (tf : Nat) =>
        if b % tf = 0 then
          match generateCandle tf (win tf) False with
          | .ok g => addCandle e sym tf g
          | .error k => fail e k
        else e) e) :
    (e.err.isSome → e'.err.isSome) ∧
    ∀ (rows : List Candle) (t0 : Int), e.cfg = c → AlignedCfg c sym t0 → LInv e sym t0 rows → rows.length = b → 0 < b →
      (∀ tf, tf ≤ b → win tf = rows.drop (b - tf)) → EInv e' sym t0 rows ∧ e'.cfg = c := by
  subst he'
  refine ⟨fun h => foldl_keeps (P := fun e : Engine M => e.err.isSome = true)
      (fun e tf h => ite_keeps (P := fun e : Engine M => e.err.isSome = true) (addGenerated_err _ _ _ h) h) _ h,
    fun rows t0 hc hal hl hlen hb0 hwin => ?_⟩
  subst hc
  have r := windowPass_spec hal.t0_pos hl.spaced (by rintro rfl; simp at hlen; omega) (tfsRaw e.cfg sym)
    (fun m hm => ⟨hal.tf_pos hm, tfsRaw_ne_one hm⟩) _
    (fun e tf htf _ _ => close_step_inv e sym b tf (win tf) rows (hal.tf_pos htf) hb0 hlen (hwin tf))
    (tfsOf e.cfg sym) (fun _ => mem_tfsOf.mp) e _ rfl hl.hs hl.short hl.pre
  exact ⟨⟨r.hs, r.short, hl.spaced, fun m hm => r.inv m (Or.inr (mem_tfsOf.mpr (r.cfg ▸ hm)))⟩, r.cfg⟩

theorem fixedRow_ts {t0 : Int} {cs : List Candle} {i : Nat} {c : Candle} (hsp : Spaced t0 cs) (h : fixedRow cs i = some c) :
    i < cs.length ∧ c.ts = t0 + 60000 * (i : Int) := by
  have key : ∀ x, cs[i]? = some x → i < cs.length ∧ x.ts = t0 + 60000 * (i : Int) := fun x hx => by
    obtain ⟨hlt, rfl⟩ := List.getElem?_eq_some_iff.mp hx
    exact ⟨hlt, hsp i hlt⟩
  revert h
  fun_cases fixedRow cs i <;> intro h <;> cases h
  · exact key _ ‹_›
  · rw [fixJump_ts]; exact key _ ‹_›
  · exact key _ ‹_›

end

section
open Jesse.Eng StoreProto
variable {M : Type} [Inhabited M] (u : UserStrategy M)

/-- NEW MINUTE + PUBLISH: the engine's partial-candle update with a candle that carries the NEXT minute's timestamp -/
theorem publish_new_minute (e : Engine M) (sym : Nat) (c : Candle) (t0 : Int) (P : List Candle)
    (hal : AlignedCfg e.cfg sym t0) (hi : EInv e sym t0 P) (hc : c.ts = t0 + 60000 * (P.length : Int)) :
    EPre (updatePartialCandle e sym c) sym t0 c.ts P ∧
    ∀ m ∈ tfsRaw e.cfg sym, StoreInv m (storeOf (updatePartialCandle e sym c) sym).short
      (longOf (storeOf (updatePartialCandle e sym c) sym) m) := by
  have h := publish_spec e sym c t0 c.ts P hal (.fresh hi hc) rfl
  exact ⟨epre_iff.mpr ⟨c, rfl, h.linv⟩, by rw [h.linv.short]; exact h.inv⟩

/-- the CLOSE WINDOW loop of an iteration (over any list of the symbol's timeframes, repetitions allowed) -/
theorem close_fold_inv (sym i : Nat) (cs' rows' : List Candle) (t0 : Int) (ht0 : 0 < t0) (T : List Nat)
    (hT : ∀ m ∈ T, 0 < m ∧ m ≠ 1) (hlen : rows'.length = i + 1) (hcs : cs'.take (i + 1) = rows') (hsp : Spaced t0 rows')
    (L : List Nat) (hL : ∀ m ∈ L, m ∈ T) :
    ∀ (e : Engine M) (D : List Nat), sym < e.stores.length → (storeOf e sym).short = rows' →
      (∀ m ∈ T, PreInv m rows' (longOf (storeOf e sym) m)) → (∀ m ∈ D, StoreInv m rows' (longOf (storeOf e sym) m)) →
      sym < (L.foldl (fun (e : Engine M) (tf : Nat) =>
          if (i + 1) % tf = 0 then
            match generateCandle tf (Py.slice cs' (some ((i : Int) - ((tf : Int) - 1))) (some ((i : Int) + 1))) False with
            | .ok g => addCandle e sym tf g
            | .error k => fail e k
          else e) e).stores.length ∧
      (storeOf (L.foldl (fun (e : Engine M) (tf : Nat) =>
          if (i + 1) % tf = 0 then
            match generateCandle tf (Py.slice cs' (some ((i : Int) - ((tf : Int) - 1))) (some ((i : Int) + 1))) False with
            | .ok g => addCandle e sym tf g
            | .error k => fail e k
          else e) e) sym).short = rows' ∧
      (∀ m ∈ D ++ L, StoreInv m rows' (longOf (storeOf (L.foldl (fun (e : Engine M) (tf : Nat) =>
          if (i + 1) % tf = 0 then
            match generateCandle tf (Py.slice cs' (some ((i : Int) - ((tf : Int) - 1))) (some ((i : Int) + 1))) False with
            | .ok g => addCandle e sym tf g
            | .error k => fail e k
          else e) e) sym) m)) ∧
      (L.foldl (fun (e : Engine M) (tf : Nat) =>
          if (i + 1) % tf = 0 then
            match generateCandle tf (Py.slice cs' (some ((i : Int) - ((tf : Int) - 1))) (some ((i : Int) + 1))) False with
            | .ok g => addCandle e sym tf g
            | .error k => fail e k
          else e) e).cfg = e.cfg ∧
      (e.err.isSome → (L.foldl (fun (e : Engine M) (tf : Nat) =>
          if (i + 1) % tf = 0 then
            match generateCandle tf (Py.slice cs' (some ((i : Int) - ((tf : Int) - 1))) (some ((i : Int) + 1))) False with
            | .ok g => addCandle e sym tf g
            | .error k => fail e k
          else e) e).err.isSome) := by
  intro e D hs hsh hpre hD
  have r := windowPass_spec ht0 hsp (by rintro rfl; simp at hlen) T hT _
    (fun e tf htf _ _ => close_step_inv e sym (i + 1) tf _ rows' (hT tf htf).1 (by omega) hlen fun hle =>
      Py.slice_window cs' rows' (i + 1) tf ((i : Int) - ((tf : Int) - 1)) ((i : Int) + 1) (by omega) (by omega) hle
        hlen hcs)
    L hL e _ rfl hs hsh hpre
  exact ⟨r.hs, r.short, fun m hm => r.inv m ((List.mem_append.mp hm).imp_left (hD m)), r.cfg, fun h => r.err ▸ h⟩

theorem checkLiquidation_spec (e : Engine M) (sym : Nat) (c : Candle) (t0 : Int) (rows : List Candle)
    (hal : AlignedCfg e.cfg sym t0) (hl : LInv e sym t0 rows) :
    (checkLiquidation u e sym c).cfg = e.cfg ∧ LInv (checkLiquidation u e sym c) sym t0 rows := by
  refine (Closed.and (cfg_closed e.cfg).toClosed (LInv.closed sym t0 rows)).checkLiquidation u sym c ?_ ⟨rfl, hl⟩
  rintro e2 last ⟨hc, h2⟩ hlast
  rw [h2.short] at hlast
  have hr := List.dropLast_append_getLast? last hlast
  generalize rows.dropLast = P at hr
  subst hr
  have h3 := publish_spec e2 sym last t0 last.ts P (hc ▸ hal) (.stored (epre_iff.mpr ⟨last, rfl, h2⟩)) rfl
  exact ⟨h3.cfg.trans hc, h3.linv⟩

/-- the liquidation check keeps `EPre`: it does nothing, or fails, or publishes the last stored minute and executes
    the forced close (whose hooks, whatever the strategy, do not write the store) -/
theorem checkLiquidation_keeps_pre (e : Engine M) (sym : Nat) (c : Candle) (t0 ts : Int) (P : List Candle)
    (hal : AlignedCfg e.cfg sym t0) (hp : EPre e sym t0 ts P) :
    EPre (checkLiquidation u e sym c) sym t0 ts P ∧ (checkLiquidation u e sym c).cfg = e.cfg := by
  obtain ⟨l, hl, h⟩ := epre_iff.mp hp
  obtain ⟨hc, h'⟩ := checkLiquidation_spec u e sym c t0 _ hal h
  exact ⟨epre_iff.mpr ⟨l, hl, h'⟩, hc⟩

/-- One induction for `matchLoop_keeps_pre` and `matchLoop_keeps_fpre`: the third conjunct is an implication because a
    minute that is not stored yet (`FPre.fresh`) is stored by the first fill, after which `FPre` is `.stored`, i.e. `EPre`
    — so the recursive call can promise `EPre` whatever the start was. -/
theorem matchLoop_spec (fuel : Nat) (e : Engine M) (sym : Nat) (cur : Candle) (cands : List Nat)
    (resel : Engine M → Candle → List Nat) (st : Bool) (t0 ts : Int) (P : List Candle) (c : Cfg)
    (hal : AlignedCfg c sym t0) (hts : cur.ts = ts) (hc : e.cfg = c) (hp : FPre e sym t0 ts P) :
    (matchLoop u fuel e sym cur cands resel st).1.cfg = c ∧
    FPre (matchLoop u fuel e sym cur cands resel st).1 sym t0 ts P ∧
    (EPre e sym t0 ts P → EPre (matchLoop u fuel e sym cur cands resel st).1 sym t0 ts P) := by
  have hC := (cfg_closed (M := M) c).toClosed
  have hF := FPre.closed (M := M) sym t0 ts P
  have hE := EPre.closed (M := M) sym t0 ts P
  have hCE := Closed.and hC hE
  fun_induction Eng.matchLoop u fuel e sym cur cands resel st
  · exact ⟨hC.fail _ hc, hF.fail _ hp, hE.fail _⟩
  · exact ⟨hc, hp, id⟩
  · exact ⟨hc, hp, id⟩
  · exact ⟨hC.fail _ hc, hF.fail _ hp, hE.fail _⟩
  · rename_i e _ _ _ _ id _ a b hsplit e1 _ _ e4 ih
    obtain ⟨ha, hb⟩ := C08.split_ts _ _ _ _ hsplit
    have h := publish_spec e sym a t0 ts P (hc ▸ hal) hp (ha.trans hts)
    have h1 : e1.cfg = c ∧ EPre e1 sym t0 ts P := ⟨h.cfg.trans hc, epre_iff.mpr ⟨a, ha.trans hts, h.linv⟩⟩
    have h4 : e4.cfg = c ∧ EPre e4 sym t0 ts P := hCE.fill u _ _ _ _ id h1
    obtain ⟨r1, r2, r3⟩ := ih (hb.trans hts) h4.1 (.stored h4.2)
    exact ⟨r1, r2, fun _ => r3 h4.2⟩

/-- THE MATCHING LOOP KEEPS THE PRE-INVARIANT, for every strategy: any number of fills inside the minute, each with
    REPLACE LAST, PUBLISH, the order's execution and every hook and reaction it triggers, and the re-selection. -/
theorem matchLoop_keeps_pre (fuel : Nat) : ∀ (e : Engine M) (sym : Nat) (cur : Candle) (cands : List Nat)
    (resel : Engine M → Candle → List Nat) (st : Bool) (t0 : Int) (P : List Candle),
    AlignedCfg e.cfg sym t0 → EPre e sym t0 cur.ts P →
    EPre (matchLoop u fuel e sym cur cands resel st).1 sym t0 cur.ts P ∧
    (matchLoop u fuel e sym cur cands resel st).1.cfg = e.cfg := fun e sym cur cands resel st t0 P hal hp =>
  let ⟨h1, _, h3⟩ := matchLoop_spec u fuel e sym cur cands resel st t0 cur.ts P e.cfg hal rfl rfl (.stored hp)
  ⟨h3 hp, h1⟩

/-- THE MATCHING LOOP OF THE FAST SIMULATOR keeps `FPre`, for every strategy -/
theorem matchLoop_keeps_fpre (fuel : Nat) : ∀ (e : Engine M) (sym : Nat) (cur : Candle) (cands : List Nat)
    (resel : Engine M → Candle → List Nat) (st : Bool) (t0 : Int) (P : List Candle),
    AlignedCfg e.cfg sym t0 → FPre e sym t0 cur.ts P →
    FPre (matchLoop u fuel e sym cur cands resel st).1 sym t0 cur.ts P ∧
    (matchLoop u fuel e sym cur cands resel st).1.cfg = e.cfg := fun e sym cur cands resel st t0 P hal hp =>
  let ⟨h1, h2, _⟩ := matchLoop_spec u fuel e sym cur cands resel st t0 cur.ts P e.cfg hal rfl rfl hp
  ⟨h2, h1⟩

end

end C07

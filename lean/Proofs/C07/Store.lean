/-
  Proofs/C07/Store.lean — the candle store of one (symbol, timeframe): the invariant `StoreInv` under which a reader
  gets `Spec.visible`, and that every way the store is written (the operations of the simulators, the chunk write of the
  fast simulator, the warm-up injection) leads back to it.
-/
import Proofs.C07.Aggregate
import Proofs.Lemmas.StoreProto
import Proofs.Lemmas.Store
import Proofs.Lemmas.Py

namespace C07
open Jesse Jesse.Gen Jesse.Store Spec AggLemmas

/-- The store invariant maintained by both simulators for a timeframe of `m` minutes:
    the long array holds the aggregates of the complete windows of the stored 1m candles, possibly
    followed by ONE partial candle of the forming window (stored when an order was executed), which
    carries the forming window's start timestamp. -/
def StoreInv (m : Nat) (short long : List Candle) : Prop :=
  let k := short.length / m
  ∃ partials : List Candle,
    long = visible m (short.take (k * m)) ++ partials ∧
    (partials = [] ∨ ∃ p s0, partials = [p] ∧ short.length % m ≠ 0 ∧ short[k * m]? = some s0 ∧ p.ts = s0.ts)

open StoreProto in
/-- the long array is right up to the window that contains the last stored minute; that window has no candle yet, or
    one candle carrying its start timestamp (whatever its content) -/
def PreInv (m : Nat) (short long : List Candle) : Prop :=
  ∃ partials : List Candle,
    long = visible m (short.take (StoreProto.k0 m short * m)) ++ partials ∧
    (partials = [] ∨ ∃ p s0, partials = [p] ∧ short[StoreProto.k0 m short * m]? = some s0 ∧ p.ts = s0.ts)

/-- session timestamps: minute `j` of the stored series starts at `t0 + j` minutes -/
def Spaced (t0 : Int) (short : List Candle) : Prop :=
  ∀ j (h : j < short.length), short[j].ts = t0 + 60000 * (j : Int)

theorem Spaced.append_iff {t0 : Int} {P cs : List Candle} :
    Spaced t0 (P ++ cs) ↔
      Spaced t0 P ∧ ∀ j (h : j < cs.length), cs[j].ts = t0 + 60000 * ((P.length + j : Nat) : Int) := by
  constructor
  · intro h
    refine ⟨fun j hj => ?_, fun j hj => ?_⟩
    · rw [← h j (by rw [List.length_append]; exact Nat.lt_add_right _ hj), List.getElem_append_left hj]
    · have := h (P.length + j) (by rw [List.length_append]; exact Nat.add_lt_add_left hj _)
      rw [List.getElem_append_right (Nat.le_add_right _ _)] at this
      simpa only [Nat.add_sub_cancel_left] using this
  · rintro ⟨hP, hcs⟩ j hj
    by_cases hjl : j < P.length
    · rw [List.getElem_append_left hjl]; exact hP j hjl
    · have hle := Nat.le_of_not_lt hjl
      rw [List.length_append] at hj
      rw [List.getElem_append_right hle, hcs (j - P.length) (Nat.sub_lt_left_of_lt_add hle hj), Nat.add_sub_cancel' hle]

theorem Spaced.concat_iff {t0 : Int} {P : List Candle} {c : Candle} :
    Spaced t0 (P ++ [c]) ↔ Spaced t0 P ∧ c.ts = t0 + 60000 * (P.length : Int) := by
  rw [Spaced.append_iff]
  refine and_congr_right fun _ => ⟨fun h => by simpa using h 0 (by simp), fun h j hj => ?_⟩
  have : j = 0 := by simpa using hj
  subst this; simpa using h

theorem Spaced.ts_lt {t0 : Int} {rows : List Candle} (h : Spaced t0 rows) {i j : Nat} (hj : j < rows.length)
    (hij : i < j) : (rows[i]'(Nat.lt_trans hij hj)).ts < rows[j].ts := by
  rw [h i (Nat.lt_trans hij hj), h j hj]
  exact Int.add_lt_add_left (Int.mul_lt_mul_of_pos_left (Int.ofNat_lt.mpr hij) (by decide)) t0

theorem Spaced.pairwise {t0 : Int} {rows : List Candle} (h : Spaced t0 rows) : rows.Pairwise (fun a b => a.ts < b.ts) :=
  List.pairwise_iff_getElem.mpr fun _ _ _ hj hij => h.ts_lt hj hij

theorem Spaced.ts_pos {t0 : Int} {rows : List Candle} (h : Spaced t0 rows) (ht0 : 0 < t0) {c : Candle} (hc : c ∈ rows) :
    0 < c.ts := by
  obtain ⟨j, hj, rfl⟩ := List.getElem_of_mem hc
  rw [h j hj]; omega

theorem Spaced.set {t0 : Int} {cs : List Candle} {i : Nat} {c : Candle} (hsp : Spaced t0 cs)
    (hc : c.ts = t0 + 60000 * (i : Int)) : Spaced t0 (cs.set i c) := by
  intro j hj
  rw [List.getElem_set]
  split
  · subst_vars; exact hc
  · exact hsp j (by simpa using hj)

theorem Spaced.take {t0 : Int} {cs : List Candle} (hsp : Spaced t0 cs) (n : Nat) : Spaced t0 (cs.take n) := by
  rw [← List.take_append_drop n cs] at hsp; exact (Spaced.append_iff.mp hsp).1

theorem addCandle_spaced_next {t0 : Int} {rows : List Candle} {c : Candle} (ht0 : 0 < t0) (h : Spaced t0 rows)
    (hc : c.ts = t0 + 60000 * (rows.length : Int)) : addCandle rows c = rows ++ [c] := by
  have hsp := Spaced.concat_iff.mpr ⟨h, hc⟩
  refine addCandle_later rows c (ne_of_gt (hsp.ts_pos ht0 (by simp))) fun last hl => ?_
  obtain ⟨j, hj, rfl⟩ := List.getElem_of_mem (List.mem_of_getLast? hl)
  have := hsp.ts_lt (i := j) (j := rows.length) (by simp) hj
  simpa [List.getElem_append_left hj] using this

theorem addCandle_spaced_last {t0 : Int} {P : List Candle} {l c : Candle} (ht0 : 0 < t0) (h : Spaced t0 (P ++ [l]))
    (hc : c.ts = l.ts) : addCandle (P ++ [l]) c = P ++ [c] ∧ Spaced t0 (P ++ [c]) := by
  have hl := h.ts_pos ht0 (c := l) (by simp)
  rw [Spaced.concat_iff] at h ⊢
  exact ⟨(addCandle_last List.getLast?_concat c (by omega) hc).trans (by rw [List.dropLast_concat]), h.1, hc.trans h.2⟩

/-- `long` holds the candles of the windows of the first `w` stored minutes, possibly followed by one candle that
    carries the timestamp of row `w`.  `PreInv` and `StoreInv` are this statement for two window starts `w`: the start
    of the window that contains the last stored minute, and the start of the forming window (the end of the array on a
    window boundary). -/
def UpTo (m : Nat) (short : List Candle) (w : Nat) (long : List Candle) : Prop :=
  ∃ partials : List Candle, long = visible m (short.take w) ++ partials ∧
    (partials = [] ∨ ∃ p s0, partials = [p] ∧ short[w]? = some s0 ∧ p.ts = s0.ts)

theorem preInv_iff {m : Nat} {short long : List Candle} :
    PreInv m short long ↔ UpTo m short (StoreProto.k0 m short * m) long := Iff.rfl

theorem storeInv_iff {m : Nat} {short long : List Candle} :
    StoreInv m short long ↔ UpTo m short (short.length / m * m) long := by
  refine exists_congr fun partials => and_congr_right fun _ => or_congr_right <| exists_congr fun p =>
    exists_congr fun s0 => and_congr_right fun _ => ⟨fun h => h.2, fun h => ⟨fun hb => ?_, h⟩⟩
  have hlt := (List.getElem?_eq_some_iff.mp h.1).1
  rw [Nat.div_mul_cancel (Nat.dvd_of_mod_eq_zero hb)] at hlt
  exact Nat.lt_irrefl _ hlt

theorem UpTo.congr {m w : Nat} {short short' long : List Candle} (h : UpTo m short w long)
    (ht : short'.take w = short.take w)
    (hw : ∀ s0, short[w]? = some s0 → ∃ s0', short'[w]? = some s0' ∧ s0'.ts = s0.ts) : UpTo m short' w long := by
  obtain ⟨partials, hlong, hpart⟩ := h
  refine ⟨partials, ht ▸ hlong, hpart.imp_right ?_⟩
  rintro ⟨p, s0, hp, hs0, hts⟩
  obtain ⟨s0', hs0', hts'⟩ := hw s0 hs0
  exact ⟨p, s0', hp, hs0', hts.trans hts'.symm⟩

theorem UpTo.append {m w : Nat} {short long : List Candle} (h : UpTo m short w long) (hw : w ≤ short.length)
    (cs : List Candle) : UpTo m (short ++ cs) w long :=
  h.congr (List.take_append_of_le_length hw) fun s0 hs0 =>
    ⟨s0, by rw [List.getElem?_append_left (List.getElem?_eq_some_iff.mp hs0).1]; exact hs0, rfl⟩

theorem UpTo.replace_last {m w : Nat} {P long : List Candle} {l c : Candle} (h : UpTo m (P ++ [l]) w long)
    (hw : w ≤ P.length) (hc : c.ts = l.ts) : UpTo m (P ++ [c]) w long := by
  refine h.congr (by rw [List.take_append_of_le_length hw, List.take_append_of_le_length hw]) fun s0 hs0 => ?_
  by_cases hlt : w < P.length
  · rw [List.getElem?_append_left hlt] at hs0 ⊢; exact ⟨s0, hs0, rfl⟩
  · have : w = P.length := by omega
    subst this
    rw [List.getElem?_concat_length] at hs0 ⊢
    exact ⟨c, rfl, by rw [hc, Option.some.inj hs0]⟩

theorem visible_take_ts_lt (m : Nat) (short : List Candle) (w : Nat) (hw : w < short.length)
    (hts : short.Pairwise (fun a b => a.ts < b.ts)) : ∀ v ∈ visible m (short.take w), v.ts < short[w].ts := by
  intro v hv
  obtain ⟨c, hc, hvc⟩ := StoreProto.visible_ts_mem m _ v hv
  obtain ⟨i, hi, rfl⟩ := List.getElem_of_mem hc
  rw [List.length_take] at hi
  rw [hvc, List.getElem_take]
  exact List.pairwise_iff_getElem.mp hts i w (by omega) hw (by omega)

theorem StoreInv.eq_visible {m : Nat} {short long : List Candle} (h : StoreInv m short long)
    (hb : short.length % m = 0) : long = visible m short := by
  obtain ⟨partials, hlong, hpart⟩ := h
  have hk : short.length / m * m = short.length := Nat.div_mul_cancel (Nat.dvd_of_mod_eq_zero hb)
  rcases hpart with rfl | ⟨_, _, _, hne, _⟩
  · simpa [hk] using hlong
  · exact absurd hb hne

open StoreProto in
/-- everything a proof needs when `len % m ≠ 0`: the last window is the forming one, so the two window starts coincide
    and a reader sees the complete windows followed by its aggregate `g` -/
structure Forming (m : Nat) (short : List Candle) (g s0 : Candle) : Prop where
  idx : short.length - short.length % m = k0 m short * m
  start : short.length / m * m = k0 m short * m
  gen : generate m (short.drop (k0 m short * m)) = .ok g
  first : short[k0 m short * m]? = some s0
  ts : g.ts = s0.ts
  vis : visible m short = visible m (short.take (k0 m short * m)) ++ [g]

open StoreProto in
theorem generate_lastWindow {m : Nat} {short : List Candle} {a s0 : Candle} (h : LastWindow m short a s0) :
    generate m (short.drop (k0 m short * m)) = .ok a := by
  rw [generate_is_aggregate, h.agg]

open StoreProto in
theorem forming_window {m : Nat} {short : List Candle} (hm : 0 < m) (hd : short.length % m ≠ 0) :
    ∃ g s0, Forming m short g s0 := by
  obtain ⟨a, s0, h⟩ := visible_last m short hm (by rintro rfl; exact hd (Nat.zero_mod m))
  have hq := k0_of_forming m short hd
  have := Nat.div_add_mod short.length m
  exact ⟨a, s0, by rw [← hq, Nat.mul_comm]; omega, by rw [hq], generate_lastWindow h, h.first, h.ts, h.vis⟩

open StoreProto in
theorem generate_window {m : Nat} {rows : List Candle} (hm : 0 < m) (hne : rows ≠ []) :
    ∃ g, generate m (rows.drop (k0 m rows * m)) = .ok g :=
  let ⟨a, _, h⟩ := visible_last m rows hm hne
  ⟨a, generate_lastWindow h⟩

/-- `get_candles`: under the store invariant (and strictly increasing 1m timestamps) a reader gets
    exactly one candle per started window — the aggregates of the complete windows and, while a
    window is forming, the aggregate of its minutes so far; never an error. -/
theorem get_candles_spec (m : Nat) (short long : List Candle) (hm : 0 < m)
    (hinv : StoreInv m short long)
    (hts : short.Pairwise (fun a b => a.ts < b.ts)) :
    getCandles short long m = .ok (visible m short) := by
  unfold getCandles
  by_cases hd : short.length % m = 0
  · rw [← hinv.eq_visible hd]
    simp only [hd, true_and, if_true]
    split
    · rename_i h0; rw [List.length_eq_zero_iff.mp h0]
    · rfl
  · obtain ⟨g, s0, h⟩ := forming_window hm hd
    obtain ⟨partials, hlong, hpart⟩ := storeInv_iff.mp hinv
    rw [h.start] at hlong hpart
    have hs0 := h.first
    have hlt := (List.getElem?_eq_some_iff.mp hs0).1
    have hold := visible_take_ts_lt m short _ hlt hts
    rw [(List.getElem?_eq_some_iff.mp hs0).2] at hold
    simp only [hd, false_and, if_false, h.idx, hs0, h.gen, h.vis]
    congr 2
    rcases hpart with rfl | ⟨p, s0', rfl, hs0', hpts⟩
    · rw [List.append_nil] at hlong
      cases hl : long.getLast? with
      | none => exact hlong
      | some l =>
        have := hold l (hlong ▸ List.mem_of_getLast? hl)
        simp only [ne_of_lt this, if_false]; exact hlong
    · rw [hs0] at hs0'
      simp [hlong, hpts, ← Option.some.inj hs0']

/-- `get_current_candle`: the last visible candle (the forming one while a window is forming). -/
theorem get_current_candle_spec (m : Nat) (short long : List Candle) (hm : 0 < m)
    (hinv : StoreInv m short long) :
    getCurrentCandle short long m = .ok (visible m short).getLast? := by
  unfold getCurrentCandle
  by_cases hd : short.length % m = 0
  · rw [← hinv.eq_visible hd]; simp [hd]
  · obtain ⟨g, _, h⟩ := forming_window hm hd
    simp [hd, h.idx, h.gen, h.vis]

/-- non-vacuity: a store with two complete 3-minute windows, a stale partial candle of the third
    window and one more minute: the reader gets the regenerated forming candle -/
example :
    let ones : List Candle := [⟨0, 1, 2, 3, 1, 1⟩, ⟨60000, 2, 3, 4, 2, 1⟩, ⟨120000, 3, 2, 3, 1, 1⟩,
                               ⟨180000, 2, 5, 6, 2, 2⟩, ⟨240000, 5, 4, 5, 3, 1⟩, ⟨300000, 4, 4, 4, 4, 1⟩,
                               ⟨360000, 4, 7, 8, 4, 1⟩, ⟨420000, 7, 6, 7, 5, 3⟩]
    let long : List Candle := [⟨0, 1, 2, 4, 1, 3⟩, ⟨180000, 2, 4, 6, 2, 4⟩, ⟨360000, 4, 5, 5, 4, 1⟩]
    (match getCandles ones long 3 with
     | .ok r => decide (r = [⟨0, 1, 2, 4, 1, 3⟩, ⟨180000, 2, 4, 6, 2, 4⟩, ⟨360000, 4, 6, 8, 4, 4⟩])
     | _ => false) = true := by decide +kernel

/-! ### the store protocol of the simulators: how `StoreInv` is (re)established at every observation time

Both simulators write the store of one (symbol, timeframe `m`) with four operations:
* NEW MINUTE — `add_candle(1m row)` with a later timestamp (the next minute of the session);
* REPLACE LAST — `add_candle(1m row)` with the timestamp of the last stored minute (the partial candle of a fill,
  or the whole minute once matching is over);
* PUBLISH — `_update_all_routes_a_partial_candle`: after the 1m write of a fill's partial candle (a REPLACE LAST; in
  the fast simulator, which does not store a minute before its first fill, possibly a NEW MINUTE), the aggregate of
  the minutes of the forming window (selected by TIMESTAMP arithmetic) is added to the long array — before every
  order execution, and (fix 0726e8d1) before the forced close of a liquidation;
* CLOSE WINDOW — when `(i + 1) % m == 0`, the aggregate of the window's `m` rows is added to the long array.
The fast simulator has a fifth, `add_multiple_1m_candles` at the end of a chunk: on evenly spaced rows it is several
NEW MINUTEs at once or rewrites the chunk's rows with themselves (`addMultiple_append`, `addMultiple_override` below).
Hooks (the observation times of the property) run after a PUBLISH or after all CLOSE WINDOWs of the iteration.
For every store content and every timeframe, NEW MINUTE and REPLACE LAST keep the weaker `PreInv` (the long array is
right up to the window that contains the last stored minute, possibly followed by one candle carrying that window's
start timestamp), and PUBLISH and CLOSE WINDOW turn `PreInv` into `StoreInv`, from which `get_candles_spec` /
`get_current_candle_spec` give what a reader sees. -/

section protocol
open StoreProto

/-- `StoreInv` implies `PreInv` (on a window boundary the last complete candle plays the part of the partial one) -/
theorem pre_of_inv (m : Nat) (short long : List Candle) (hm : 0 < m) (hne : short ≠ [])
    (hinv : StoreInv m short long) : PreInv m short long := by
  by_cases hb : short.length % m = 0
  · obtain ⟨a, s0, h⟩ := visible_last m short hm hne
    exact ⟨[a], by rw [hinv.eq_visible hb, h.vis], Or.inr ⟨a, s0, rfl, h.first, h.ts⟩⟩
  · rw [preInv_iff, ← k0_of_forming m short hb]; exact storeInv_iff.mp hinv

/-- inside a window (`len % m ≠ 0`) `PreInv` IS `StoreInv`: a reader regenerates the forming candle -/
theorem inv_of_pre_forming (m : Nat) (short long : List Candle) (hm : 0 < m)
    (hb : short.length % m ≠ 0) (hpre : PreInv m short long) : StoreInv m short long := by
  rw [storeInv_iff, k0_of_forming m short hb]; exact hpre

/-- several NEW MINUTEs at once inside one window: `StoreInv` before, `PreInv` after, provided none of the new minutes
    but the last one completes a window -/
theorem pre_of_new_minutes (m : Nat) (hm : 0 < m) (long : List Candle) (cs : List Candle) :
    ∀ (P : List Candle), cs ≠ [] → StoreInv m P long →
      (∀ j, j + 1 < cs.length → (P.length + j + 1) % m ≠ 0) → PreInv m (P ++ cs) long := by
  intro P hne hinv hwin
  obtain ⟨n, hn⟩ : ∃ n, cs.length = n + 1 := ⟨cs.length - 1, (Nat.succ_pred_eq_of_pos (List.length_pos_iff.mpr hne)).symm⟩
  have hk : StoreProto.k0 m (P ++ cs) = P.length / m := by
    unfold StoreProto.k0
    rw [List.length_append, hn, ← Nat.add_assoc, Nat.add_sub_cancel]
    exact StoreProto.div_add_of_no_multiple m P.length n fun j hj => hwin j (by rw [hn]; exact Nat.succ_lt_succ hj)
  rw [preInv_iff, hk]
  exact (storeInv_iff.mp hinv).append (Nat.div_mul_le_self _ _) cs

/-- NEW MINUTE: appending the next minute to a store that satisfies `StoreInv` gives `PreInv` -/
theorem pre_of_new_minute (m : Nat) (short long : List Candle) (c : Candle) (hm : 0 < m)
    (hinv : StoreInv m short long) : PreInv m (short ++ [c]) long :=
  pre_of_new_minutes m hm long [c] short (List.cons_ne_nil _ _) hinv fun _ hj => absurd hj (Nat.not_lt_zero _ ∘ Nat.lt_of_succ_lt_succ)

/-- REPLACE LAST: rewriting the last stored minute (same timestamp) keeps `PreInv` -/
theorem pre_of_replace_last (m : Nat) (short long : List Candle) (c last : Candle) (hm : 0 < m)
    (hlast : short.getLast? = some last) (hts : c.ts = last.ts)
    (hpre : PreInv m short long) : PreInv m (short.dropLast ++ [c]) long := by
  have hs := List.dropLast_append_getLast? last hlast
  generalize short.dropLast = P at hs ⊢
  subst hs
  have hk : ∀ x, k0 m (P ++ [x]) = P.length / m := fun x => by simp [k0]
  rw [preInv_iff, hk] at hpre ⊢
  exact hpre.replace_last (Nat.div_mul_le_self _ _) hts

theorem addCandle_window (m : Nat) (short long : List Candle) (t0 : Int) (g : Candle) (hm : 0 < m)
    (hne : short ≠ []) (ht0 : 0 < t0) (hsp : Spaced t0 short) (hpre : PreInv m short long)
    (hg : generate m (short.drop (k0 m short * m)) = .ok g) : addCandle long g = visible m short := by
  obtain ⟨partials, rfl, hpart⟩ := hpre
  obtain ⟨a, s0, h⟩ := visible_last m short hm hne
  obtain rfl : a = g := Except.ok.inj ((generate_lastWindow h).symm.trans hg)
  have hats := h.ts
  obtain ⟨hlt, rfl⟩ := List.getElem?_eq_some_iff.mp h.first
  rw [h.vis]
  refine addCandle_onto_partial _ _ a ?_ ?_ (hpart.imp_right ?_)
  · rw [hats]; exact ne_of_gt (hsp.ts_pos ht0 (List.getElem_mem _))
  · rw [hats]; exact visible_take_ts_lt m short _ hlt hsp.pairwise
  · rintro ⟨p, s0', hp, hs0', hpts⟩
    rw [List.getElem?_eq_getElem hlt] at hs0'
    exact ⟨p, hp, by rw [hpts, hats, Option.some.inj hs0']⟩

theorem storeInv_visible (m : Nat) (short : List Candle) (hm : 0 < m) : StoreInv m short (visible m short) := by
  rw [storeInv_iff]
  by_cases hb : short.length % m = 0
  · exact ⟨[], by rw [Nat.div_mul_cancel (Nat.dvd_of_mod_eq_zero hb), List.take_length, List.append_nil], Or.inl rfl⟩
  · obtain ⟨g, s0, h⟩ := forming_window hm hb
    rw [h.start]; exact ⟨[g], h.vis, Or.inr ⟨g, s0, rfl, h.first, h.ts⟩⟩

/-- PUBLISH / CLOSE WINDOW: adding the aggregate `g` of the window that contains the last stored minute to the long
    array turns `PreInv` into `StoreInv` — in the middle of a window (the candle is the forming one) and on a window
    boundary (it is the completed one) alike. -/
theorem inv_of_window_candle (m : Nat) (short long : List Candle) (t0 : Int) (g : Candle) (hm : 0 < m)
    (hne : short ≠ []) (ht0 : 0 < t0) (hsp : Spaced t0 short) (hpre : PreInv m short long)
    (hg : generate m (short.drop (k0 m short * m)) = .ok g) :
    StoreInv m short (addCandle long g) := by
  rw [addCandle_window m short long t0 g hm hne ht0 hsp hpre hg]
  exact storeInv_visible m short hm

theorem minute_of_window (m n : Nat) (t0 : Int) (hal : t0 % ((m : Int) * 60000) = 0) :
    (t0 + 60000 * (n : Int)) % ((m : Int) * 60000) / 60000 = ((n % m : Nat) : Int) := by
  obtain ⟨q, rfl⟩ := Int.dvd_of_emod_eq_zero hal
  rw [Int.add_comm, Int.add_mul_emod_self_left, Int.mul_comm (m : Int), Int.mul_emod_mul_of_pos _ _ (by omega),
    Int.mul_ediv_cancel_left _ (by omega), Int.natCast_mod]

/-- the window `_update_all_routes_a_partial_candle` selects by TIMESTAMP arithmetic
    (`int(ts % (m * 60_000) // 60000) + 1` rows from the end) is the window that contains the last stored minute,
    when the session starts on a boundary of the timeframe (as the property assumes) -/
theorem needed_rows (m : Nat) (short : List Candle) (t0 : Int) (last : Candle) (hm : 0 < m)
    (ht0 : 0 ≤ t0) (hal : t0 % ((m : Int) * 60000) = 0) (hsp : Spaced t0 short)
    (hlast : short.getLast? = some last) :
    short.length - (((last.ts % ((m : Int) * 60000)) / 60000).toNat + 1) = k0 m short * m := by
  have hpos : 0 < short.length := List.length_pos_iff.mpr (by rintro rfl; simp at hlast)
  rw [List.getLast?_eq_getElem?, List.getElem?_eq_getElem (by omega)] at hlast
  rw [← Option.some.inj hlast, hsp _ (by omega), minute_of_window m _ t0 hal, Int.toNat_natCast]
  have := Nat.div_add_mod (short.length - 1) m
  unfold k0
  rw [Nat.mul_comm] at this; omega

end protocol

/-- non-vacuity of the protocol theorems: the hypotheses of `inv_of_window_candle` and `needed_rows` hold together for
    three stored minutes of a 3-minute timeframe starting at t0 = 180000 (a boundary), the long array still empty -/
example :
    let ones : List Candle := [⟨180000, 1, 2, 3, 1, 1⟩, ⟨240000, 2, 3, 4, 2, 1⟩, ⟨300000, 3, 2, 3, 1, 1⟩]
    PreInv 3 ones [] ∧ Spaced 180000 ones ∧ (180000 : Int) % ((3 : Nat) * 60000) = 0 ∧
      generate 3 (ones.drop (StoreProto.k0 3 ones * 3)) = .ok ⟨180000, 1, 2, 4, 1, 3⟩ := by
  refine ⟨⟨[], by decide +kernel, Or.inl rfl⟩, ?_, by decide, by decide +kernel⟩
  intro j h
  have : j < 3 := h
  match j, this with
  | 0, _ => rfl
  | 1, _ => rfl
  | 2, _ => rfl

/-- `add_multiple_1m_candles` when none of the chunk's minutes is stored yet: they are appended -/
theorem addMultiple_append (P cs : List Candle) (t0 : Int) (hne : cs ≠ []) (hsp : Spaced t0 (P ++ cs)) :
    addMultiple1m P cs = .ok (P ++ cs) := by
  obtain ⟨c0, rest, rfl⟩ := List.exists_cons_of_ne_nil hne
  unfold addMultiple1m
  rw [List.head?_cons, List.getLast?_eq_some_getLast (List.cons_ne_nil c0 rest)]
  dsimp only
  cases hP : P.getLast? with
  | none => rfl
  | some last =>
    obtain ⟨j, hj, rfl⟩ := List.getElem_of_mem (List.mem_of_getLast? hP)
    have := hsp.ts_lt (i := j) (j := P.length) (by simp) hj
    rw [List.getElem_append_left hj, List.getElem_append_right (le_refl _)] at this
    simp only [Nat.sub_self, List.getElem_cons_zero] at this
    simp only [gt_iff_lt, this, if_true]

/-- `add_multiple_1m_candles` when every minute of the chunk has been stored already: the rows are rewritten in place -/
theorem addMultiple_override (P cs : List Candle) (t0 : Int) (hne : cs ≠ []) (hsp : Spaced t0 (P ++ cs)) :
    addMultiple1m (P ++ cs) cs = .ok (P ++ cs) := by
  obtain ⟨c0, hc0⟩ : ∃ c0, cs.head? = some c0 := by cases cs <;> simp_all
  obtain ⟨cl, hcl⟩ : ∃ cl, cs.getLast? = some cl := ⟨_, List.getLast?_eq_some_getLast hne⟩
  have h0 : 0 < cs.length := List.length_pos_iff.mpr hne
  have hle : ¬ c0.ts > cl.ts := by
    obtain ⟨j, hj, rfl⟩ := List.getElem_of_mem (List.mem_of_getLast? hcl)
    have hc : cs[0] = c0 := by rw [List.head?_eq_getElem?, List.getElem?_eq_getElem h0] at hc0; exact Option.some.inj hc0
    have := (Spaced.append_iff.mp hsp).2
    rw [this j hj, ← hc, this 0 h0]
    omega
  unfold addMultiple1m
  rw [hc0, hcl, List.getLast?_append_of_ne_nil _ hne, hcl]
  dsimp only
  rw [if_neg hle, Py.getIdx_neg _ cs.length h0 (by rw [List.length_append]; omega), List.length_append,
    Nat.add_sub_cancel, List.getElem?_append_right (le_refl _), Nat.sub_self, ← List.head?_eq_getElem?, hc0]
  dsimp only
  rw [if_pos ⟨le_refl _, le_refl _⟩]
  have hpos : ¬ ((cs.length : Int) ≤ 0) := by omega
  simp only [Int.sub_self, Int.zero_ediv, Int.sub_zero, hpos, if_false, Int.toNat_natCast,
    Nat.add_sub_cancel, List.take_left', List.take_length]

/-! ### warm-up injection (`inject_warmup_candles_to_store`, model `Store.injectWarmup`)

The warm-up candles reach the store before the first simulated minute, by a path of their own: the 1m array through
`batch_add_candle`, each bigger timeframe through a loop that aggregates every complete window of the warm-up rows.
The theorems say that this path leaves the store in exactly the state the simulators maintain (`StoreInv`, no partial
candle): one candle per COMPLETE window, each the aggregate of its minutes — for every warm-up length (also one that
ends inside a window: the unfinished window is not stored, and `get_candles` regenerates it from the 1m rows),
every timeframe, every series of minutes that are one minute apart.  They are stated for the two parts of
`Store.injectWarmup`, `batchAdd [] cs` and `injectLongUpTo m cs cs.length`, not for `injectWarmup` itself (which maps
the second over the timeframes and rejects an empty series). -/
section warmup
open StoreProto

/-- `batch_add_candle` of minutes that are one minute apart stores exactly those minutes -/
theorem batchAdd_spaced (t0 : Int) (ht0 : 0 < t0) (cs : List Candle) : ∀ pre : List Candle, Spaced t0 (pre ++ cs) →
    batchAdd pre cs = pre ++ cs := by
  induction cs with
  | nil => intro pre _; exact (List.append_nil pre).symm
  | cons c rest ih =>
    intro pre hsp
    rw [List.append_cons] at hsp ⊢
    obtain ⟨hpre, hc⟩ := Spaced.concat_iff.mp (Spaced.append_iff.mp hsp).1
    exact (congrArg (batchAdd · rest) (addCandle_spaced_next ht0 hpre hc)).trans (ih _ hsp)

/-- the bigger-timeframe loop of the injection, after `j` of its iterations: one candle per complete window of the
    first `j` warm-up minutes, each the aggregate of its minutes -/
theorem injectLongUpTo_spec (m : Nat) (hm : 0 < m) (t0 : Int) (ht0 : 0 < t0) (cs : List Candle) (hsp : Spaced t0 cs) :
    ∀ j, j ≤ cs.length → injectLongUpTo m cs j = .ok (visible m (cs.take (j / m * m))) := by
  intro j
  induction j with
  | zero => intro _; simp [injectLongUpTo, visible, windows_nil]
  | succ j ih =>
    intro hj
    have hlen : (cs.take (j + 1)).length = j + 1 := by rw [List.length_take]; omega
    have hk0 : k0 m (cs.take (j + 1)) = j / m := by unfold k0; rw [hlen]; rfl
    unfold injectLongUpTo
    rw [ih (by omega)]
    dsimp only
    by_cases hb : (j + 1) % m = 0
    · -- a window ends here: its candle is written to a long array that is right up to the window's start
      have hne : cs.take (j + 1) ≠ [] := by intro h0; rw [h0] at hlen; cases hlen
      obtain ⟨hq, hfull⟩ := k0_of_boundary m (cs.take (j + 1)) hne (by rw [hlen]; exact hb)
      rw [hk0, hlen] at hq hfull
      have hwin : (cs.drop (j + 1 - m)).take m = (cs.take (j + 1)).drop (k0 m (cs.take (j + 1)) * m) := by
        rw [hk0, List.drop_take, show j + 1 - m = j / m * m by omega, show j + 1 - j / m * m = m by omega]
      obtain ⟨g, hg⟩ := generate_window hm hne
      have hpre : PreInv m (cs.take (j + 1)) (visible m (cs.take (j / m * m))) :=
        ⟨[], by rw [hk0, List.take_take, Nat.min_eq_left (by omega), List.append_nil], Or.inl rfl⟩
      rw [if_pos hb, hwin, hg]
      dsimp only
      rw [addCandle_window m _ _ t0 g hm hne ht0 (hsp.take _) hpre hg, hq, Nat.add_mul, Nat.one_mul, hfull]
    · rw [if_neg hb, ← hk0, ← k0_of_forming m (cs.take (j + 1)) (by rw [hlen]; exact hb), hlen]

/-- WARM-UP INJECTION ESTABLISHES THE STORE INVARIANT: for every warm-up series of minutes one minute apart (any
    length; timestamps positive, as `add_candle` ignores a candle with timestamp 0) and every timeframe,
    `batch_add_candle` leaves exactly the warm-up minutes in the 1m array, the loop of the bigger timeframe succeeds and
    its array satisfies `StoreInv` (`injectLongUpTo_spec`: it holds exactly the candles of the complete windows) — the
    state `get_candles_spec` / `get_current_candle_spec` and the simulators' invariant start from -/
theorem inject_warmup_establishes_inv (m : Nat) (hm : 0 < m) (t0 : Int) (ht0 : 0 < t0) (cs : List Candle)
    (hsp : Spaced t0 cs) :
    batchAdd [] cs = cs ∧ ∃ long, injectLongUpTo m cs cs.length = .ok long ∧ StoreInv m cs long := by
  refine ⟨by simpa using batchAdd_spaced t0 ht0 cs [] (by simpa using hsp), _,
    injectLongUpTo_spec m hm t0 ht0 cs hsp _ (Nat.le_refl _), ?_⟩
  exact ⟨[], by simp, Or.inl rfl⟩

/-- non-vacuity: five warm-up minutes, timeframe 2: two complete windows, the fifth minute is not stored above 1m -/
example : injectLongUpTo 2 [⟨60000, 1, 2, 3, 0, 1⟩, ⟨120000, 2, 3, 4, 1, 1⟩, ⟨180000, 3, 1, 5, 1, 1⟩, ⟨240000, 1, 1, 1, 1, 1⟩,
      ⟨300000, 1, 2, 2, 1, 1⟩] 5 = .ok [⟨60000, 1, 3, 4, 0, 2⟩, ⟨180000, 3, 1, 5, 1, 2⟩] := by decide +kernel

end warmup

end C07

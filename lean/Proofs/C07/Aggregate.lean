/-
  Proofs/C07/Aggregate.lean — the generated aggregation function is the reference aggregation (and what its
  complete-window mode and `split_candle` add); the jump fix of a 1m candle; jump-fixing the inner minutes of a window
  does not change its aggregate.
-/
import Jesse.Gen.Sim
import Jesse.Store
import Spec.Aggregate
import Proofs.Lemmas.Aggregate
import Proofs.Lemmas.Num

namespace C07
open Jesse Jesse.Gen Jesse.Store Spec AggLemmas

/-- Full functional specification of `generate_candle_from_one_minutes` (forming candles accepted):
    the aggregation of the given 1m candles — window-start timestamp, first open, last close,
    maximum high, minimum low, summed volume; an empty input is rejected. -/
theorem generate_is_aggregate (m : Nat) (cs : List Candle) :
    generate m cs = match aggregate cs with
      | some a => .ok a
      | none => .error .ValueError := by
  cases cs with
  | nil => simp [generate, generateCandle, lenR, aggregate]
  | cons c0 rest =>
    have hlen : ¬ (lenR (c0 :: rest) = 0) := by
      unfold lenR
      have : (0 : Rat) < (((c0 :: rest).length : Nat) : Rat) := by
        exact_mod_cast (by simp : 0 < (c0 :: rest).length)
      exact ne_of_gt this
    simp only [generate, generateCandle, hlen, if_false, not_true_eq_false, false_and, aggregate]
    congr 1
    simp only [firstRow, lastRow, Jesse.Gen.colMax, Jesse.Gen.colMin, Jesse.Gen.colSum, Py.colMax, Py.colMin,
      Py.colSum, List.map_cons, Option.getD_some, foldl_max_eq, foldl_min_eq, foldl_add_eq]
    have hl : (c0 :: rest).getLast? = some ((c0 :: rest).getLast?.getD c0) := by
      cases h : (c0 :: rest).getLast? with
      | none => simp at h
      | some x => rfl
    rw [hl]
    simp [sumOf]

/-- With `accept_forming_candles = False` exactly `timeframe` minutes are required. -/
theorem generate_complete_requires_full_window (m : Nat) (cs : List Candle) (h : cs.length ≠ m) :
    generateCandle m cs False = .error .ValueError := by
  unfold generateCandle
  split
  · rfl
  · have : lenR cs ≠ natR m := by
      unfold lenR natR
      intro hh; apply h; exact_mod_cast hh
    simp [this]

theorem generate_complete_eq (m : Nat) (cs : List Candle) (h : cs.length = m) :
    generateCandle m cs False = generate m cs := by
  unfold generate generateCandle
  have : lenR cs = natR m := by unfold lenR natR; rw [h]
  simp [this]

theorem aggregate_extrema (cs : List Candle) (a : Candle) (h : aggregate cs = some a) :
    (∀ c ∈ cs, c.h ≤ a.h) ∧ (∃ c ∈ cs, c.h = a.h) ∧ (∀ c ∈ cs, a.l ≤ c.l) ∧ (∃ c ∈ cs, c.l = a.l) := by
  cases cs with
  | nil => cases h
  | cons c0 rest =>
    simp only [aggregate, Option.some.injEq] at h
    subst h
    obtain ⟨hm, hb⟩ := maxOf_spec (rest.map (·.h)) c0.h
    obtain ⟨lm, lb⟩ := minOf_spec (rest.map (·.l)) c0.l
    refine ⟨fun c hc => hb _ (List.mem_map_of_mem (f := (·.h)) hc), ?_,
      fun c hc => lb _ (List.mem_map_of_mem (f := (·.l)) hc), ?_⟩
    · obtain ⟨c, hc, e⟩ := List.mem_map.mp (show _ ∈ (c0 :: rest).map (·.h) from hm)
      exact ⟨c, hc, e⟩
    · obtain ⟨c, hc, e⟩ := List.mem_map.mp (show _ ∈ (c0 :: rest).map (·.l) from lm)
      exact ⟨c, hc, e⟩

theorem aggregate_of_generate {m : Nat} {cs : List Candle} {a : Candle} (h : generate m cs = .ok a) :
    aggregate cs = some a := by
  rw [generate_is_aggregate] at h
  cases hagg : aggregate cs with
  | none => rw [hagg] at h; cases h
  | some g => rw [hagg] at h; exact congrArg some (Except.ok.inj h)

theorem aggregate_close {cs : List Candle} {a : Candle} (h : aggregate cs = some a) :
    cs.getLast?.map (·.c) = some a.c := by
  cases cs with
  | nil => cases h
  | cons c rest => cases h; rw [List.getLast?_eq_some_getLast (List.cons_ne_nil c rest)]; rfl

/-- The normalisation of a gapping open (`_get_fixed_jumped_candle`): timestamp, close and volume are never
    touched and the open is moved to the previous close — or there is no gap and the candle is unchanged.
    (`fix_jump_bounds`: the low resp. high is extended to contain the new open, and a valid candle stays valid.) -/
theorem fix_jump_spec (prev c : Candle) :
    (fixJump prev c).ts = c.ts ∧ (fixJump prev c).c = c.c ∧ (fixJump prev c).v = c.v ∧
    (fixJump prev c).o = prev.c ∨ (prev.c = c.o ∧ fixJump prev c = c) := by
  unfold fixJump
  by_cases h1 : prev.c < c.o
  · left; simp [h1]
  · by_cases h2 : prev.c > c.o
    · left; simp [h1, h2]
    · right
      have : prev.c = c.o := le_antisymm (not_lt.mp h2) (not_lt.mp h1)
      simp [this]

theorem fixJump_ts (p c : Candle) : (fixJump p c).ts = c.ts :=
  (fix_jump_spec p c).elim (fun h => h.1) (fun h => by rw [h.2])

theorem fixJump_c (p c : Candle) : (fixJump p c).c = c.c :=
  (fix_jump_spec p c).elim (fun h => h.2.1) (fun h => by rw [h.2])

theorem fixJump_v (p c : Candle) : (fixJump p c).v = c.v :=
  (fix_jump_spec p c).elim (fun h => h.2.2.1) (fun h => by rw [h.2])

theorem fix_jump_bounds (prev c : Candle) (hv : c.Valid) :
    (fixJump prev c).Valid ∧ (fixJump prev c).l = min c.l prev.c ∧ (fixJump prev c).h = max c.h prev.c := by
  obtain ⟨a, b, d, e⟩ := hv
  unfold fixJump
  split
  · rename_i h1
    have hh : prev.c ≤ c.h := le_trans (le_of_lt h1) b
    exact ⟨⟨minR_le_left _ _, hh, le_trans (minR_le_right _ _) d, e⟩, by rw [minR_eq_min, min_comm],
      (max_eq_left hh).symm⟩
  split
  · rename_i h1 h2
    have hl : c.l ≤ prev.c := le_trans a (le_of_lt h2)
    refine ⟨⟨hl, ?_, d, le_trans e ?_⟩, (min_eq_left hl).symm, by rw [maxR_eq_max, max_comm]⟩ <;>
      rw [maxR_eq_max]
    · exact le_max_left _ _
    · exact le_max_right _ _
  · rename_i h1 h2
    have : prev.c = c.o := le_antisymm (not_lt.mp h2) (not_lt.mp h1)
    exact ⟨⟨a, b, d, e⟩, (min_eq_left (this ▸ a)).symm, (max_eq_left (this ▸ b)).symm⟩

/-! The normal simulator fixes the jump of EVERY minute in place before storing it; the fast simulator fixes only the
first minute of a chunk and stores the inner minutes as they came.  For the aggregate of a window this makes no
difference: extending a minute's range to the previous close never leaves the range the window already covers.
(This is why the two simulators can publish the same bigger-timeframe candles although their 1m arrays differ on
gapped data; `aggregate_fixChain` is about one window with the same first minute on both sides, not about the engines.) -/
section fixchain

/-- the rows after `p`, each jump-fixed against its (already fixed) predecessor — what the normal simulator stores -/
def fixChain : Candle → List Candle → List Candle
  | _, [] => []
  | p, c :: cs => fixJump p c :: fixChain (fixJump p c) cs

theorem fixChain_length (p : Candle) (cs : List Candle) : (fixChain p cs).length = cs.length := by
  induction cs generalizing p with
  | nil => rfl
  | cons c cs ih => simp [fixChain, ih]

theorem fixChain_v (p : Candle) (cs : List Candle) : (fixChain p cs).map (·.v) = cs.map (·.v) := by
  induction cs generalizing p with
  | nil => rfl
  | cons c cs ih =>
    simp only [fixChain, List.map_cons, ih]
    rw [fixJump_v]

theorem fixChain_last_c (p : Candle) (cs : List Candle) (d : Candle) :
    (((fixChain p cs).getLast?).getD d).c = ((cs.getLast?).getD d).c := by
  induction cs generalizing p with
  | nil => rfl
  | cons c cs ih =>
    cases cs with
    | nil =>
      simp only [fixChain, List.getLast?_singleton, Option.getD_some]
      exact fixJump_c p c
    | cons c2 cs2 =>
      have := ih (fixJump p c)
      simp only [fixChain, List.getLast?_cons_cons] at this ⊢
      exact this

theorem fixChain_max (cs : List Candle) : ∀ (p : Candle) (acc : Rat), p.c ≤ acc → (∀ k ∈ cs, k.Valid) →
    maxOf ((fixChain p cs).map (·.h)) acc = maxOf (cs.map (·.h)) acc := by
  induction cs with
  | nil => intro _ _ _ _; rfl
  | cons c cs ih =>
    intro p acc hp hv
    have hc : c.Valid := hv c List.mem_cons_self
    -- the fixed high only reaches up to the previous close, which the running maximum has covered already
    rw [fixChain, List.map_cons, List.map_cons, maxOf_cons, maxOf_cons, maxR_eq_max, maxR_eq_max,
      (fix_jump_bounds p c hc).2.2,
      max_comm c.h, ← max_assoc, max_eq_left hp]
    exact ih _ _ (by rw [fixJump_c]; exact le_trans hc.2.2.2 (le_max_right _ _)) fun k hk => hv k (List.mem_cons_of_mem _ hk)

theorem fixChain_min (cs : List Candle) : ∀ (p : Candle) (acc : Rat), acc ≤ p.c → (∀ k ∈ cs, k.Valid) →
    minOf ((fixChain p cs).map (·.l)) acc = minOf (cs.map (·.l)) acc := by
  induction cs with
  | nil => intro _ _ _ _; rfl
  | cons c cs ih =>
    intro p acc hp hv
    have hc : c.Valid := hv c List.mem_cons_self
    rw [fixChain, List.map_cons, List.map_cons, minOf_cons, minOf_cons, minR_eq_min, minR_eq_min,
      (fix_jump_bounds p c hc).2.1,
      min_comm c.l, ← min_assoc, min_eq_left hp]
    exact ih _ _ (by rw [fixJump_c]; exact le_trans (min_le_right _ _) hc.2.2.1) fun k hk => hv k (List.mem_cons_of_mem _ hk)

/-- THE AGGREGATE OF A WINDOW IS THE SAME whether its inner minutes are stored jump-fixed (normal simulator) or as
    they came (fast simulator), for every window of valid candles -/
theorem aggregate_fixChain (c0 : Candle) (rest : List Candle) (hv : ∀ k ∈ c0 :: rest, k.Valid) :
    aggregate (c0 :: fixChain c0 rest) = aggregate (c0 :: rest) := by
  have h0 : c0.Valid := hv c0 List.mem_cons_self
  have hr : ∀ k ∈ rest, k.Valid := fun k hk => hv k (List.mem_cons_of_mem _ hk)
  simp only [aggregate]
  rw [List.getLast?_cons, List.getLast?_cons, Option.getD_some, Option.getD_some, fixChain_last_c,
    fixChain_max rest c0 c0.h h0.2.2.2 hr, fixChain_min rest c0 c0.l h0.2.2.1 hr]
  simp only [List.map_cons, fixChain_v]

/-- non-vacuity: a window whose second minute gaps up and third gaps down -/
example : aggregate (⟨0, 10, 11, 12, 9, 1⟩ :: fixChain ⟨0, 10, 11, 12, 9, 1⟩ [⟨60000, 13, 14, 15, 13, 1⟩, ⟨120000, 12, 12, 12, 11, 1⟩])
    = aggregate [⟨0, 10, 11, 12, 9, 1⟩, ⟨60000, 13, 14, 15, 13, 1⟩, ⟨120000, 12, 12, 12, 11, 1⟩]
    ∧ fixChain ⟨0, 10, 11, 12, 9, 1⟩ [⟨60000, 13, 14, 15, 13, 1⟩] ≠ [⟨60000, 13, 14, 15, 13, 1⟩] := by decide +kernel

end fixchain

end C07

/-
  Proofs/C07/Chunk.lean — the fast simulator: the per-minute loop of a chunk, a whole chunk and a whole iteration for one
  symbol.
-/
import Proofs.C07.Pass

namespace C07
open Jesse Jesse.Gen Jesse.Store Spec AggLemmas

section
open Jesse.Eng StoreProto
variable {M : Type} [Inhabited M] (u : UserStrategy M)

theorem perMinute_spec (fuel : Nat) (sym : Nat) (real : Candle) (t0 : Int) (rest : List Candle) (c : Cfg)
    (hal : AlignedCfg c sym t0) (prev : Option Candle) (e : Engine M) (cands : List Nat) (Q : List Candle)
    (hc : e.cfg = c) (hi : EInv e sym t0 Q) (hne : rest ≠ []) (hsp : Spaced t0 (Q ++ rest))
    (hwin : ∀ m ∈ tfsRaw c sym, ∀ n, Q.length < n → n < (Q ++ rest).length → n % m ≠ 0) :
    (simulateChunk.perMinute u fuel sym real rest prev e cands).err.isSome ∨
    (LInv (simulateChunk.perMinute u fuel sym real rest prev e cands) sym t0 (Q ++ rest) ∧
     (simulateChunk.perMinute u fuel sym real rest prev e cands).cfg = c) := by
  fun_induction simulateChunk.perMinute u fuel sym real rest prev e cands generalizing Q
  · exact absurd rfl hne
  · rename_i h; exact Or.inl h
  · rename_i h; exact Or.inl h
  · rename_i prev e cands c0 more _ cur resel e1 cur' hr _ _ e3 _ ih
    have hcts : c0.ts = t0 + 60000 * (Q.length : Int) := (Spaced.append_iff.mp hsp).2 0 (Nat.succ_pos _)
    have hcur : cur.ts = c0.ts := by
      cases prev with
      | none => rfl
      | some p => exact fixJump_ts p c0
    obtain ⟨hcfg1, hf, _⟩ := matchLoop_spec u fuel e sym cur cands resel true t0 c0.ts Q c hal hcur hc (.fresh hi hcts)
    rw [hr] at hcfg1 hf
    -- the minute is stored (NEW MINUTE if nothing was executed in it, REPLACE LAST otherwise)
    have hl3 : LInv e3 sym t0 (Q ++ [c0]) :=
      Closed.setCurrentPrice (LInv.closed sym t0 _) _ _ (write_minute e1 sym c0 t0 c0.ts Q (hcfg1 ▸ hal) hf rfl)
    by_cases hmore : more = []
    · subst hmore
      unfold simulateChunk.perMinute
      exact Or.inr ⟨hl3, hcfg1⟩
    · -- inside the chunk no window of any timeframe ends here, so the store satisfies `StoreInv` again
      have hlen : (Q ++ [c0]).length = Q.length + 1 := by simp
      have hi3 : EInv e3 sym t0 (Q ++ [c0]) := ⟨hl3.hs, hl3.short, hl3.spaced, fun m hm => by
        have hm' : m ∈ tfsRaw c sym := hcfg1 ▸ hm
        refine inv_of_pre_forming m _ _ (hal.tf_pos hm') (hwin m hm' _ (by omega) ?_) (hl3.pre m hm)
        have := List.length_pos_iff.mpr hmore
        simp; omega⟩
      rw [List.append_cons] at hsp hwin ⊢
      exact ih (Q ++ [c0]) hcfg1 hi3 hmore hsp fun m hm n hn => hwin m hm n (by omega)

/-- "no window ends strictly inside the chunk" has two forms: by offset `j` into the chunk (`perMinute_inv`,
    `simulateChunk_inv`, `pre_of_new_minutes`: as the model indexes the chunk) and by row number `n` (what survives when
    the chunk is split into a first minute and the rest, as the per-minute loop does) -/
theorem mod_ne_zero_of_offset {a len m : Nat} (h : ∀ j, j + 1 < len → (a + j + 1) % m ≠ 0) :
    ∀ n, a < n → n < a + len → n % m ≠ 0 := fun n h1 h2 => by
  have := h (n - a - 1) (by omega)
  rwa [show a + (n - a - 1) + 1 = n by omega] at this

/-- THE PER-MINUTE LOOP OF A CHUNK (fast simulator), every strategy: starting from `EInv` with rows `Q`, matching the
    minutes `rest` one after the other — each stored when an order is executed in it or when its matching is over — ends
    with the rows `Q ++ rest` stored and `PreInv` for every timeframe, provided no window ends strictly inside the
    chunk, or the run was stopped by an error. -/
theorem perMinute_inv (fuel : Nat) (sym : Nat) (real : Candle) (t0 : Int) (rest : List Candle) :
    ∀ (prev : Option Candle) (e : Engine M) (cands : List Nat) (Q : List Candle),
      AlignedCfg e.cfg sym t0 → EInv e sym t0 Q → rest ≠ [] →
      (∀ j (h : j < rest.length), rest[j].ts = t0 + 60000 * ((Q.length + j : Nat) : Int)) →
      (∀ m ∈ tfsRaw e.cfg sym, ∀ j, j + 1 < rest.length → (Q.length + j + 1) % m ≠ 0) →
      (simulateChunk.perMinute u fuel sym real rest prev e cands).err.isSome ∨
      (LInv (simulateChunk.perMinute u fuel sym real rest prev e cands) sym t0 (Q ++ rest) ∧
       (simulateChunk.perMinute u fuel sym real rest prev e cands).cfg = e.cfg) :=
  fun prev e cands Q hal hi hne hts hwin =>
    perMinute_spec u fuel sym real t0 rest e.cfg hal prev e cands Q rfl hi hne (Spaced.append_iff.mpr ⟨hi.spaced, hts⟩)
      fun m hm n h1 h2 => mod_ne_zero_of_offset (hwin m hm) n h1 (List.length_append ▸ h2)

/-- the first half of a chunk — the per-minute loop, which runs only when some order lies inside the chunk's range:
    either way `add_multiple_1m_candles` is about to leave the rows `P ++ cs`, for which every timeframe has `PreInv` -/
theorem chunk_matching_spec (fuel : Nat) (e e1 : Engine M) (sym : Nat) (cs : List Candle) (t0 : Int) (P : List Candle)
    (hal : AlignedCfg e.cfg sym t0) (hi : EInv e sym t0 P) (hne : cs ≠ []) (hsp : Spaced t0 (P ++ cs))
    (hwin : ∀ m ∈ tfsRaw e.cfg sym, ∀ n, P.length < n → n < (P ++ cs).length → n % m ≠ 0)
    (c : Prop) [Decidable c] (real : Candle) (cands : List Nat)
    (he1 : e1 = if c then simulateChunk.perMinute u fuel sym real cs none e cands else e) :
    e1.err.isSome ∨
    (e1.cfg = e.cfg ∧ sym < e1.stores.length ∧ addMultiple1m (storeOf e1 sym).short cs = .ok (P ++ cs) ∧
     ∀ m ∈ tfsRaw e.cfg sym, PreInv m (P ++ cs) (longOf (storeOf e1 sym) m)) := by
  subst he1
  split
  · refine (perMinute_spec u fuel sym real t0 cs e.cfg hal none e cands P rfl hi hne hsp hwin).imp_right ?_
    rintro ⟨hl, hc⟩
    exact ⟨hc, hl.hs, by rw [hl.short]; exact addMultiple_override P cs t0 hne hsp, fun m hm => hl.pre m (hc ▸ hm)⟩
  · refine Or.inr ⟨rfl, hi.hs, by rw [hi.short]; exact addMultiple_append P cs t0 hne hsp, fun m hm => ?_⟩
    refine pre_of_new_minutes m (hal.tf_pos hm) _ cs P hne (hi.inv m hm) fun j hj => ?_
    exact hwin m hm _ (by omega) (by rw [List.length_append]; omega)

/-- the second half of a chunk: the rows `add_multiple_1m_candles` produced are written, then the liquidation check -/
theorem chunk_store_spec (e : Engine M) (sym : Nat) (rows : List Candle) (t t0 : Int) (real : Candle)
    (hal : AlignedCfg e.cfg sym t0) (hs : sym < e.stores.length) (hsp : Spaced t0 rows)
    (hpre : ∀ m ∈ tfsRaw e.cfg sym, PreInv m rows (longOf (storeOf e sym) m)) :
    LInv (checkLiquidation u { e with stores := Acc.upd e.stores sym (fun s => { s with short := rows }), time := t } sym real)
      sym t0 rows := by
  have hst : storeOf { e with stores := Acc.upd e.stores sym (fun s => { s with short := rows }), time := t } sym =
      { storeOf e sym with short := rows } := Acc.listGetD_upd_same _ _ _ _ hs
  exact And.right <| checkLiquidation_spec u _ sym real t0 _ hal
    ⟨(Acc.length_upd _ _ _).symm ▸ hs, by rw [hst], hsp, fun m hm => by rw [hst]; exact hpre m hm⟩

theorem simulateChunk_spec (fuel : Nat) (e : Engine M) (sym : Nat) (cs : List Candle) (t0 : Int) (P : List Candle)
    (hal : AlignedCfg e.cfg sym t0) (hi : EInv e sym t0 P) (hne : cs ≠ []) (hsp : Spaced t0 (P ++ cs))
    (hwin : ∀ m ∈ tfsRaw e.cfg sym, ∀ n, P.length < n → n < (P ++ cs).length → n % m ≠ 0) :
    (simulateChunk u fuel e sym cs).err.isSome ∨
    (LInv (simulateChunk u fuel e sym cs) sym t0 (P ++ cs) ∧ (simulateChunk u fuel e sym cs).cfg = e.cfg) := by
  suffices h : (simulateChunk u fuel e sym cs).err.isSome ∨ LInv (simulateChunk u fuel e sym cs) sym t0 (P ++ cs) from
    h.imp_right fun hl => ⟨hl, ((cfg_closed e.cfg).closedAt sym).simulateChunk u fuel cs (e := e) rfl⟩
  fun_cases Eng.simulateChunk u fuel e sym cs
  · rename_i h; exact Or.inl h
  · exact Or.inl (fail_err _ _)
  · rename_i h; exact Or.inl h
  · exact Or.inl (fail_err _ _)
  · rename_i real _ _ e1 _ _ rows' hadd _ _ _ _
    rcases chunk_matching_spec u fuel e e1 sym cs t0 P hal hi hne hsp hwin _ real _ rfl with herr | ⟨hc, hs, hadd', hpre⟩
    · exact absurd herr ‹_›
    · obtain rfl : rows' = P ++ cs := Except.ok.inj (hadd.symm.trans hadd')
      exact Or.inr (Closed.setCurrentPrice (LInv.closed sym t0 _) _ _
        (chunk_store_spec u e1 sym _ _ t0 real (hc ▸ hal) hs hsp (hc ▸ hpre)))
  · rename_i real _ _ e1 _ _ rows' hadd _ _ _
    rcases chunk_matching_spec u fuel e e1 sym cs t0 P hal hi hne hsp hwin _ real _ rfl with herr | ⟨hc, hs, hadd', hpre⟩
    · exact absurd herr ‹_›
    · obtain rfl : rows' = P ++ cs := Except.ok.inj (hadd.symm.trans hadd')
      exact Or.inr (chunk_store_spec u e1 sym _ _ t0 real (hc ▸ hal) hs hsp (hc ▸ hpre))

/-- A WHOLE CHUNK OF THE FAST SIMULATOR for one symbol, every strategy: from `EInv` with rows `P` to the rows `P ++ cs`
    stored with `PreInv` for every timeframe (the chunk lies inside one window of each), or the run was stopped. -/
theorem simulateChunk_inv (fuel : Nat) (e : Engine M) (sym : Nat) (cs : List Candle) (t0 : Int) (P : List Candle)
    (hal : AlignedCfg e.cfg sym t0) (hi : EInv e sym t0 P) (hne : cs ≠ [])
    (hts : ∀ j (h : j < cs.length), cs[j].ts = t0 + 60000 * ((P.length + j : Nat) : Int))
    (hwin : ∀ m ∈ tfsRaw e.cfg sym, ∀ j, j + 1 < cs.length → (P.length + j + 1) % m ≠ 0) :
    (simulateChunk u fuel e sym cs).err.isSome ∨
    (LInv (simulateChunk u fuel e sym cs) sym t0 (P ++ cs) ∧ (simulateChunk u fuel e sym cs).cfg = e.cfg) :=
  simulateChunk_spec u fuel e sym cs t0 P hal hi hne (Spaced.append_iff.mpr ⟨hi.spaced, hts⟩) fun m hm n h1 h2 =>
    mod_ne_zero_of_offset (hwin m hm) n h1 (List.length_append ▸ h2)

theorem fixedFirst_spec {t0 : Int} {cs : List Candle} (hsp : Spaced t0 cs) (i : Nat) :
    (fixedFirst cs i).length = cs.length ∧ (fixedFirst cs i).take i = cs.take i ∧ Spaced t0 (fixedFirst cs i) := by
  unfold fixedFirst
  split
  · split
    · rename_i c hfr
      exact ⟨List.length_set, List.take_set_of_le (le_refl i), Spaced.set hsp (fixedRow_ts hsp hfr).2⟩
    · exact ⟨rfl, rfl, hsp⟩
  · exact ⟨rfl, rfl, hsp⟩

theorem chunk_rows {α} (cs : List α) {i step : Nat} (hstep : 0 < step) (hle : i + step ≤ cs.length) :
    Py.slice cs (some (i : Int)) (some ((i : Int) + step)) ≠ [] ∧
    cs.take i ++ Py.slice cs (some (i : Int)) (some ((i : Int) + step)) = cs.take (i + step) ∧
    (cs.take i).length = i ∧ (cs.take (i + step)).length = i + step := by
  have h := Py.slice_of_le cs i (i + step) (Nat.le_add_right i step) hle
  rw [Nat.cast_add] at h
  rw [h]
  refine ⟨fun h0 => ?_, ?_, by rw [List.length_take]; omega, by rw [List.length_take]; omega⟩
  · have := congrArg List.length h0
    rw [List.length_drop, List.length_take, List.length_nil] at this; omega
  · have : cs.take i = (cs.take (i + step)).take i := by rw [List.take_take, Nat.min_eq_left (Nat.le_add_right i step)]
    rw [this, List.take_append_drop]

/-- why the row-number form holds in a run: a chunk starts on a multiple of the step `S`, is at most `S` long, and `S`
    divides every timeframe -/
theorem mod_ne_zero_in_span {S m i n : Nat} (hS : S ∣ m) (hiS : i % S = 0) (h1 : i < n) (h2 : n < i + S) : n % m ≠ 0 := by
  intro h0
  obtain ⟨q, rfl⟩ := Nat.dvd_trans hS (Nat.dvd_of_mod_eq_zero h0)
  obtain ⟨r, rfl⟩ := Nat.dvd_of_mod_eq_zero hiS
  have := Nat.lt_of_mul_lt_mul_left h1
  have := Nat.lt_of_mul_lt_mul_left (a := S) (show S * q < S * (r + 1) by rw [Nat.mul_add, Nat.mul_one]; exact h2)
  omega

/-- ONE ITERATION OF THE FAST SIMULATOR FOR ONE SYMBOL, every strategy: a chunk of `step` minutes starting at row `i`
    (a multiple of the nominal step `S`, which divides every timeframe of the symbol; `step ≤ S`) leads from `EInv` with
    the first `i` rows to `EInv` with the first `i + step` rows, unless the run was stopped by an error. -/
theorem symSkip_inv (fuel i step S : Nat) (e : Engine M) (inputs : List (List Candle)) (sym : Nat) (t0 : Int)
    (hal : AlignedCfg e.cfg sym t0) (hstep : 0 < step) (hstepS : step ≤ S) (hiS : i % S = 0)
    (hdiv : ∀ m ∈ tfsRaw e.cfg sym, S ∣ m)
    (hin : ∀ j (h : j < (inputs.getD sym []).length), (inputs.getD sym [])[j].ts = t0 + 60000 * (j : Int))
    (hil : i + step ≤ (inputs.getD sym []).length)
    (hi : EInv e sym t0 ((inputs.getD sym []).take i)) :
    (symSkip u fuel i step (e, inputs) sym).1.err.isSome ∨
    (EInv (symSkip u fuel i step (e, inputs) sym).1 sym t0 (((symSkip u fuel i step (e, inputs) sym).2.getD sym []).take (i + step)) ∧
     (symSkip u fuel i step (e, inputs) sym).1.cfg = e.cfg ∧
     ((symSkip u fuel i step (e, inputs) sym).2.getD sym []).length = (inputs.getD sym []).length ∧
     ∀ j (h : j < ((symSkip u fuel i step (e, inputs) sym).2.getD sym []).length),
       ((symSkip u fuel i step (e, inputs) sym).2.getD sym [])[j].ts = t0 + 60000 * (j : Int)) := by
  fun_cases Eng.symSkip u fuel i step (e, inputs) sym
  · rename_i h; exact Or.inl h
  · rename_i cs' chunk e1 e2
    dsimp only at cs' chunk e1 ⊢
    obtain ⟨hlen', htake', hsp'⟩ := fixedFirst_spec hin i
    have hget : (inputs.set sym cs').getD sym [] = cs' :=
      getD_set_self _ _ _ fun h => by rw [h] at hil; simp at hil; omega
    obtain ⟨hcne, hrows, hlen1, hlen2⟩ := chunk_rows cs' hstep (hlen'.trans_ge hil)
    rw [htake'] at hrows hlen1
    have hch := simulateChunk_spec u fuel e sym chunk t0 _ hal hi hcne (hrows ▸ Spaced.take hsp' _) fun m hm n h1 h2 =>
      mod_ne_zero_in_span (hdiv m hm) hiS (hlen1 ▸ h1) (by rw [hrows, hlen2] at h2; omega)
    obtain ⟨herr2, hinv2⟩ := closeWindows_spec (e := e1) (e' := e2) (sym := sym) (b := i + step) (c := e.cfg)
      (win := fun tf => Py.slice cs' (some ((i : Int) - (tf : Int) + step)) (some ((i : Int) + step))) rfl
    rcases hch with herr | ⟨hl, hcfg1⟩
    · exact Or.inl (herr2 herr)
    · rw [hget]
      rw [hrows] at hl
      obtain ⟨r1, r2⟩ := hinv2 _ t0 hcfg1 hal hl hlen2 (Nat.add_pos_right i hstep) fun tf htf =>
        Py.slice_window cs' _ (i + step) tf _ _ (by omega) (by omega) htf hlen2 rfl
      exact Or.inr ⟨r1, r2, hlen', hsp'⟩

end

end C07

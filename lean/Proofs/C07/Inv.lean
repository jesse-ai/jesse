/-
  Proofs/C07/Inv.lean — the store invariants stated on the engine, and what keeps them: no strategy writes the store,
  a predicate that reads only one symbol's store and the configuration survives the strategy layer and the other
  symbols' parts of an iteration; a fresh engine satisfies them; what a reader gets.
-/
import Proofs.C07.Store
import Proofs.Lemmas.Closed

namespace C07
open Jesse Jesse.Gen Jesse.Store Spec AggLemmas

/-! ### no strategy writes the store

Only the simulators write the candle store (by the operations of Proofs/C07/Store.lean): whatever the user strategy does
in any hook (an arbitrary `UserStrategy`), the strategy layer leaves `Engine.stores` untouched — a whole strategy step, the
execution of an order with all its position hooks and the reactions they trigger, the pending MARKET-order queue,
the route step of an iteration and the end of the run — so the store a hook reads is the store the simulator
published just before.  (`stores_closed` through the walk of Proofs/Lemmas/Closed.lean.) -/

section frame
open Jesse.Eng
variable {M : Type} [Inhabited M] (u : UserStrategy M)

theorem order_execution_never_writes_store (e : Engine M) (id : Nat) :
    (executeOrder u e id).stores = e.stores := (stores_closed e.stores).executeOrder u id rfl

theorem strategy_step_never_writes_store (fuel : Nat) (e : Engine M) (r : Nat) :
    (executeStrategy u fuel e r).stores = e.stores := (stores_closed e.stores).executeStrategy u fuel r rfl

theorem market_queue_never_writes_store (fuel : Nat) (e : Engine M) :
    (executePendingMarketOrders u fuel e).stores = e.stores := (stores_closed e.stores).executePendingMarketOrders u fuel rfl

theorem routes_step_never_writes_store (fuel : Nat) (e : Engine M) (i b : Nat) :
    (routesStep u fuel e i b).stores = e.stores := (stores_closed e.stores).routesStep u fuel i b rfl

theorem finish_run_never_writes_store (fuel : Nat) (e : Engine M) :
    (finishRun u fuel e).stores = e.stores := (stores_closed e.stores).finishRun u fuel rfl

end frame

/-! ### the store invariants on the engine

`EInv e sym t0 rows`: between iterations the symbol's stored minutes are exactly `rows` (evenly spaced from `t0`) and
every bigger timeframe satisfies `StoreInv`.  `LInv`: the same with `PreInv` — the state after the 1m write of a
minute (NEW MINUTE, REPLACE LAST) and at the end of a chunk.  `EPre e sym t0 ts P`: `LInv` for `P` followed by one
more row of which only the timestamp `ts` is known — the state while minute `ts` is being matched.  `FPre`: that, or
the minute is not stored yet (fast simulator).  PUBLISH and CLOSE WINDOW lead from `LInv` back to `StoreInv`. -/

section store
open Jesse.Eng StoreProto
variable {M : Type}

/-- the bigger timeframes of a symbol, as `_update_all_routes_a_partial_candle` walks them -/
def tfsRaw (cfg : Cfg) (sym : Nat) : List Nat :=
  ((cfg.routes ++ cfg.dataRoutes).filter (fun r => r.sym = sym ∧ r.tf ≠ 1)).map (·.tf)

theorem tfsRaw_ne_one {cfg : Cfg} {sym m : Nat} (hm : m ∈ tfsRaw cfg sym) : m ≠ 1 := by
  obtain ⟨r, hr, rfl⟩ := List.mem_map.mp hm
  exact (of_decide_eq_true (List.mem_filter.mp hr).2).2

theorem mem_tfsOf {cfg : Cfg} {sym m : Nat} : m ∈ tfsOf cfg sym ↔ m ∈ tfsRaw cfg sym := List.mem_eraseDups

structure EPre (e : Engine M) (sym : Nat) (t0 ts : Int) (P : List Candle) : Prop where
  hs : sym < e.stores.length
  pfx : (storeOf e sym).short.dropLast = P
  spaced : Spaced t0 (storeOf e sym).short
  last : ∃ l, (storeOf e sym).short.getLast? = some l ∧ l.ts = ts
  pre : ∀ m ∈ tfsRaw e.cfg sym, PreInv m (storeOf e sym).short (longOf (storeOf e sym) m)

/-- the session starts on a boundary of every bigger timeframe of the symbol (the property's assumption) -/
def AlignedCfg (cfg : Cfg) (sym : Nat) (t0 : Int) : Prop :=
  0 < t0 ∧ ∀ m ∈ tfsRaw cfg sym, 0 < m ∧ t0 % ((m : Int) * 60000) = 0

theorem AlignedCfg.t0_pos {cfg : Cfg} {sym : Nat} {t0 : Int} (h : AlignedCfg cfg sym t0) : 0 < t0 := h.1

theorem AlignedCfg.tf_pos {cfg : Cfg} {sym m : Nat} {t0 : Int} (h : AlignedCfg cfg sym t0) (hm : m ∈ tfsRaw cfg sym) :
    0 < m := (h.2 m hm).1

theorem AlignedCfg.on_boundary {cfg : Cfg} {sym m : Nat} {t0 : Int} (h : AlignedCfg cfg sym t0) (hm : m ∈ tfsRaw cfg sym) :
    t0 % ((m : Int) * 60000) = 0 := (h.2 m hm).2

structure EInv (e : Engine M) (sym : Nat) (t0 : Int) (rows : List Candle) : Prop where
  hs : sym < e.stores.length
  short : (storeOf e sym).short = rows
  spaced : Spaced t0 rows
  inv : ∀ m ∈ tfsRaw e.cfg sym, StoreInv m rows (longOf (storeOf e sym) m)

structure LInv (e : Engine M) (sym : Nat) (t0 : Int) (rows : List Candle) : Prop where
  hs : sym < e.stores.length
  short : (storeOf e sym).short = rows
  spaced : Spaced t0 rows
  pre : ∀ m ∈ tfsRaw e.cfg sym, PreInv m rows (longOf (storeOf e sym) m)

inductive FPre (e : Engine M) (sym : Nat) (t0 ts : Int) (P : List Candle) : Prop
  | fresh : EInv e sym t0 P → ts = t0 + 60000 * (P.length : Int) → FPre e sym t0 ts P
  | stored : EPre e sym t0 ts P → FPre e sym t0 ts P

/-- the state of all symbols between iterations -/
structure AllInv (e : Engine M) (inputs : List (List Candle)) (t0 : Int) (nsym n : Nat) (len : Nat → Nat) : Prop where
  inv : ∀ s, s < nsym → EInv e s t0 ((inputs.getD s []).take n)
  spaced : ∀ s, s < nsym → ∀ j (h : j < (inputs.getD s []).length), (inputs.getD s [])[j].ts = t0 + 60000 * (j : Int)
  lens : ∀ s, s < nsym → (inputs.getD s []).length = len s

theorem epre_iff {e : Engine M} {sym : Nat} {t0 ts : Int} {P : List Candle} :
    EPre e sym t0 ts P ↔ ∃ l, l.ts = ts ∧ LInv e sym t0 (P ++ [l]) := by
  constructor
  · rintro ⟨hs, hpfx, hsp, ⟨l, hl, hts⟩, hpre⟩
    have hsh : (storeOf e sym).short = P ++ [l] := by rw [← hpfx]; exact (List.dropLast_append_getLast? l hl).symm
    rw [hsh] at hsp hpre
    exact ⟨l, hts, hs, hsh, hsp, hpre⟩
  · rintro ⟨l, hts, hs, hsh, hsp, hpre⟩
    rw [← hsh] at hsp hpre
    exact ⟨hs, by rw [hsh, List.dropLast_concat], hsp, ⟨l, by rw [hsh, List.getLast?_concat], hts⟩, hpre⟩

structure SameView (s : Nat) (e e' : Engine M) : Prop where
  len : e'.stores.length = e.stores.length
  store : storeOf e' s = storeOf e s
  cfg : e'.cfg = e.cfg

theorem SameView.of_stores {s : Nat} {e e' : Engine M} (hs : e'.stores = e.stores) (hc : e'.cfg = e.cfg) : SameView s e e' :=
  ⟨by rw [hs], by unfold storeOf; rw [hs], hc⟩

theorem closed_of_view {P : Engine M → Prop} (s : Nat) (h : ∀ e e' : Engine M, SameView s e e' → P e → P e') :
    Closed P where
  step hp _ hs hc := h _ _ (.of_stores hs hc) hp

theorem closedAt_of_view {P : Engine M → Prop} {s sym : Nat} (hne : s ≠ sym)
    (h : ∀ e e' : Engine M, SameView s e e' → P e → P e') : ClosedAt sym P where
  toClosed := closed_of_view s h
  store f hp := h _ _ ⟨Acc.length_upd _ _ _, Acc.listGetD_upd_ne _ _ _ f _ (Ne.symm hne), rfl⟩ hp

theorem LInv.of_view {e e' : Engine M} {sym : Nat} {t0 : Int} {rows : List Candle} (hv : SameView sym e e')
    (h : LInv e sym t0 rows) : LInv e' sym t0 rows :=
  ⟨hv.len ▸ h.hs, hv.store ▸ h.short, h.spaced, by rw [hv.store, hv.cfg]; exact h.pre⟩

theorem EInv.of_view {e e' : Engine M} {sym : Nat} {t0 : Int} {rows : List Candle} (hv : SameView sym e e')
    (h : EInv e sym t0 rows) : EInv e' sym t0 rows :=
  ⟨hv.len ▸ h.hs, hv.store ▸ h.short, h.spaced, by rw [hv.store, hv.cfg]; exact h.inv⟩

theorem EPre.of_view {e e' : Engine M} {sym : Nat} {t0 ts : Int} {P : List Candle} (hv : SameView sym e e')
    (h : EPre e sym t0 ts P) : EPre e' sym t0 ts P :=
  let ⟨l, hl, h⟩ := epre_iff.mp h
  epre_iff.mpr ⟨l, hl, h.of_view hv⟩

theorem FPre.of_view {e e' : Engine M} {sym : Nat} {t0 ts : Int} {P : List Candle} (hv : SameView sym e e') :
    FPre e sym t0 ts P → FPre e' sym t0 ts P
  | .fresh hi hc => .fresh (hi.of_view hv) hc
  | .stored hp => .stored (hp.of_view hv)

theorem LInv.closed (sym : Nat) (t0 : Int) (rows : List Candle) : Closed (fun e : Engine M => LInv e sym t0 rows) :=
  closed_of_view sym fun _ _ => LInv.of_view

theorem EInv.closed (sym : Nat) (t0 : Int) (rows : List Candle) : Closed (fun e : Engine M => EInv e sym t0 rows) :=
  closed_of_view sym fun _ _ => EInv.of_view

theorem EInv.closedAt {s sym : Nat} (hne : s ≠ sym) (t0 : Int) (rows : List Candle) :
    ClosedAt sym (fun e : Engine M => EInv e s t0 rows) :=
  closedAt_of_view hne fun _ _ => EInv.of_view

theorem EPre.closed (sym : Nat) (t0 ts : Int) (P : List Candle) : Closed (fun e : Engine M => EPre e sym t0 ts P) :=
  closed_of_view sym fun _ _ => EPre.of_view

theorem FPre.closed (sym : Nat) (t0 ts : Int) (P : List Candle) : Closed (fun e : Engine M => FPre e sym t0 ts P) :=
  closed_of_view sym fun _ _ => FPre.of_view

end store

section
open Jesse.Eng StoreProto
variable {M : Type} [Inhabited M] (u : UserStrategy M)

/-- the premise of `runStepN_all` is met by every fresh engine whose input arrays are evenly spaced -/
theorem init_all (cfg : Cfg) (kind : Acc.Kind) (balance fee leverage : Rat) (m0 : M) (t0 : Int) (inputs : List (List Candle))
    (hsp : ∀ s, s < cfg.nsym → ∀ j (h : j < (inputs.getD s []).length), (inputs.getD s [])[j].ts = t0 + 60000 * (j : Int)) :
    AllInv (initEngine cfg kind balance fee leverage m0) inputs t0 cfg.nsym 0 (fun s => (inputs.getD s []).length) := by
  refine ⟨?_, hsp, fun _ _ => rfl⟩
  intro s hs
  have hst : storeOf (initEngine cfg kind balance fee leverage m0) s = {} := by
    unfold storeOf initEngine
    simp [List.getD_eq_getElem?_getD, hs]
  rw [List.take_zero]
  refine ⟨by unfold initEngine; simpa using hs, by rw [hst], fun j h => absurd h (by simp), ?_⟩
  intro m _
  rw [hst]
  refine ⟨[], ?_, Or.inl rfl⟩
  simp [longOf, visible, AggLemmas.windows_nil]

/-- the premise of `runStepN_inv` is met by every fresh single-symbol engine: an empty store satisfies the invariant -/
theorem init_inv (cfg : Cfg) (kind : Acc.Kind) (balance fee leverage : Rat) (m0 : M) (t0 : Int) (hn : cfg.nsym = 1) :
    EInv (initEngine cfg kind balance fee leverage m0) 0 t0 [] :=
  (init_all cfg kind balance fee leverage m0 t0 [] fun _ _ j h => absurd h (Nat.not_lt_zero j)).inv 0 (by omega)

/-- WHAT A READER GETS: whenever a symbol's store satisfies `EInv` — by `runStepN_all` / `runSkipN_all` after every
    iteration of either simulator, for every strategy — `get_candles` of every bigger timeframe of the symbol returns
    exactly one candle per started window of the stored minutes, each the aggregate of its minutes, and
    `get_current_candle` returns the last of them. -/
theorem reader_sees_aggregates (e : Engine M) (sym : Nat) (t0 : Int) (rows : List Candle) (m : Nat)
    (hal : AlignedCfg e.cfg sym t0) (hi : EInv e sym t0 rows) (hm : m ∈ tfsRaw e.cfg sym) :
    getCandles (storeOf e sym).short (longOf (storeOf e sym) m) m = .ok (visible m rows) ∧
    getCurrentCandle (storeOf e sym).short (longOf (storeOf e sym) m) m = .ok (visible m rows).getLast? := by
  rw [hi.short]
  exact ⟨get_candles_spec m rows _ (hal.tf_pos hm) (hi.inv m hm) hi.spaced.pairwise,
    get_current_candle_spec m rows _ (hal.tf_pos hm) (hi.inv m hm)⟩

end

end C07

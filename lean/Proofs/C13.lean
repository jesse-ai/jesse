/-
  Proofs/C13.lean — indicator series are causal: row `i` depends only on candles `0..i` (`Causal`,
  Proofs/Lemmas/Causal.lean).  One theorem per modelled kernel of Jesse/Ind/*.lean, which the correspondence
  check ties to the real indicators.  For the kernels that are NOT causal on the unchanged tree a concrete
  witness is proved instead (`…_not_causal_witness`, by kernel evaluation: two inputs with a common prefix
  whose outputs differ inside the prefix) and the intended statement is kept in the doc comment.
-/
import Proofs.Lemmas.Kernels
import Proofs.Lemmas.Witness
import Proofs.Lemmas.MinMax
import Jesse.Ind.MA
import Jesse.Ind.Simple
import Jesse.Ind.Osc
import Jesse.Ind.Dir
import Jesse.Ind.Off

namespace C13
open Jesse Jesse.Ind

/-- every kernel that works on a source series is causal as a function of the candles, for each of
    the eight source types, as soon as it is causal on the source series -/
theorem causal_any_source {K : List Rat → Ser} (hK : Causal K) (s : Source) :
    Causal (fun cs : List Candle => K (source s cs)) :=
  fun xs ys k h => hK _ _ k (by rw [source, source, ← List.map_take, ← List.map_take, h])

/-- the C13 statement itself for a causal, length-preserving kernel:
    `ind(c[:k]) = ind(c)[:k]` for every `k` -/
theorem prefix_of_causal {α} {K : List α → Ser} (hc : Causal K) (hl : LenPres K) (cs : List α) (k : Nat) :
    K (cs.take k) = (K cs).take k := hc.prefix_eq hl cs k

theorem causal_sma (p : Nat) : Causal (sma p) := (online_sma p).causal
theorem causal_ema (p : Nat) : Causal (ema p) := (online_ema p).causal
theorem causal_wma (p : Nat) : Causal (wma p) := (online_trailing _ _).causal
theorem causal_smma (p : Nat) : Causal (smma p) := (online_pmap _).causal
theorem causal_wilders (p : Nat) : Causal (wilders p) := causal_scanState _ _
theorem causal_trima (p : Nat) : Causal (trima p) := (online_trailing _ _).causal

theorem causal_dema (p : Nat) : Causal (dema p) := (online_dema p).causal

theorem causal_tema (p : Nat) : Causal (tema p) := (online_tema p).causal

/-- `rma` is NOT causal on the unchanged tree.  Intended statement: `∀ p, Causal (rma p)`.
    `rma_fast` reads `newseries[i-1]` at `i = 0`, which is the LAST input value (negative index
    wrap-around), so every row depends on the last row of the input.  Witness: two inputs that agree
    on their first two values give different first two rows. -/
theorem rma_not_causal_witness :
    ([1, 2, 3] : List Rat).take 2 = ([1, 2, 4] : List Rat).take 2
      ∧ (rma 14 [1, 2, 3]).take 2 ≠ (rma 14 [1, 2, 4]).take 2 := by decide +kernel

theorem rma_not_causal : ¬ Causal (rma 14) := fun h =>
  rma_not_causal_witness.2 (h _ _ 2 rma_not_causal_witness.1)

/-- apart from its seed `rma` is a left-to-right recurrence: with the seed held fixed it is causal
    (this is the part of the intended statement that does hold) -/
theorem rma_causal_given_seed (p : Nat) (seed : Rat) : Causal (scanState (rmaStep p) seed) :=
  causal_scanState _ _

theorem causal_roc (p : Nat) : Causal (roc p) := (online_pmap _).causal
theorem causal_mom (p : Nat) : Causal (mom p) := (online_pmap _).causal
theorem causal_obv : Causal obv := causal_scanState _ _

theorem causal_avgprice : Causal avgprice := (online_map _).causal
theorem causal_medprice : Causal medprice := (online_map _).causal
theorem causal_typprice : Causal typprice := (online_map _).causal
theorem causal_wclprice : Causal wclprice := (online_map _).causal

theorem causal_donchian_upper (p : Nat) : Causal (donchianUpper p) := (online_trailing _ _).causal
theorem causal_donchian_middle (p : Nat) : Causal (donchianMiddle p) := (online_trailing _ _).causal
theorem causal_donchian_lower (p : Nat) : Causal (donchianLower p) := (online_trailing _ _).causal
theorem causal_willr (p : Nat) : Causal (willr p) := (online_trailing _ _).causal

theorem causal_trange : Causal trange := online_trange.causal

theorem causal_atr (p : Nat) : Causal (atr p) := (online_atr p).causal

theorem causal_rsi (p : Nat) : Causal (rsi p) := causal_scanState _ _

theorem causal_macd_line (f s : Nat) : Causal (macdLine f s) := (online_macdLine f s).causal
theorem causal_macd_signal (f s g : Nat) : Causal (macdSignal f s g) := (online_macdSignal f s g).causal
theorem causal_macd_hist (f s g : Nat) : Causal (macdHist f s g) := (online_macdHist f s g).causal

theorem causal_stoch_k (fk sk : Nat) : Causal (stochK fk sk) := (online_stochK fk sk).causal
theorem causal_stoch_d (fk sk sd : Nat) : Causal (stochD fk sk sd) := (online_stochD fk sk sd).causal

theorem causal_stochf_k (p : Nat) : Causal (stochfK p) := (online_pmap _).causal

theorem causal_stochf_d (p fd : Nat) : Causal (stochfD p fd) := (online_stochfD p fd).causal

theorem causal_cci (p : Nat) : Causal (cci p) := (online_cci p).causal

theorem causal_mfi (p : Nat) : Causal (mfi p) := (online_mfi p).causal

theorem causal_stddev (sqrt : Rat → Rat) (p : Nat) (nb : Rat) : Causal (stddev sqrt p nb) := (online_trailing _ _).causal
theorem causal_var (p : Nat) (nb : Rat) : Causal (var p nb) := (online_trailing _ _).causal

theorem causal_bollinger_middle (p : Nat) : Causal (bbMiddle p) := (online_sma p).causal

theorem causal_bollinger_upper (sqrt : Rat → Rat) (p : Nat) (du : Rat) : Causal (bbUpper sqrt p du) :=
  (online_bb oadd sqrt p du).causal

theorem causal_bollinger_lower (sqrt : Rat → Rat) (p : Nat) (dd : Rat) : Causal (bbLower sqrt p dd) :=
  (online_bb osub sqrt p dd).causal

theorem causal_keltner_middle (p : Nat) (s : Source) : Causal (keltnerMiddle p s) :=
  (online_keltnerMiddle p s).causal

theorem causal_keltner_upper (p : Nat) (m : Rat) (s : Source) : Causal (keltnerUpper p m s) :=
  (online_keltner oadd p m s).causal

theorem causal_keltner_lower (p : Nat) (m : Rat) (s : Source) : Causal (keltnerLower p m s) :=
  (online_keltner osub p m s).causal

theorem causal_dm_plus (p : Nat) : Causal (dmPlus p) := (online_scan_proj _ _ _).causal
theorem causal_dm_minus (p : Nat) : Causal (dmMinus p) := (online_scan_proj _ _ _).causal
theorem causal_di_plus (p : Nat) : Causal (diPlus p) := (online_scan_proj _ _ _).causal
theorem causal_di_minus (p : Nat) : Causal (diMinus p) := (online_scan_proj _ _ _).causal
theorem causal_adx (p : Nat) : Causal (adx p) := causal_scanState _ _

/-- `dx` is NOT causal.  Intended statement: `Causal (dxPlusDI dl)`, `Causal (dxMinusDI dl)`,
    `Causal (dxAdx dl sm)`.  It smooths with `rma`, whose seed is the last row (see `rma_not_causal_witness`). -/
theorem dx_not_causal_witness :
    wA.take 3 = wB.take 3
      ∧ (dxPlusDI 14 wA).take 3 ≠ (dxPlusDI 14 wB).take 3
      ∧ (dxMinusDI 14 wA).take 3 ≠ (dxMinusDI 14 wB).take 3
      ∧ (dxAdx 14 14 wA).take 3 ≠ (dxAdx 14 14 wB).take 3 := by decide +kernel

/-- `lrsi` is NOT causal.  Intended statement: `∀ al, Causal (lrsi al)`.  The four Laguerre stages are
    seeded at row 0 from `l·[-1]`, the LAST price (negative index wrap-around). -/
theorem lrsi_not_causal_witness :
    wA.take 3 = wB.take 3 ∧ (lrsi (1 / 5) wA).take 3 ≠ (lrsi (1 / 5) wB).take 3 := by decide +kernel

/-- `er` is NOT causal.  Intended statement: `∀ p, Causal (er p)`.  Every row is divided by ONE sum over
    all windows of the whole series. -/
theorem er_not_causal_witness :
    ([1, 2, 4, 3] : List Rat).take 3 = ([1, 2, 4, 3, 7] : List Rat).take 3
      ∧ (er 2 [1, 2, 4, 3]).take 3 ≠ (er 2 [1, 2, 4, 3, 7]).take 3 := by decide +kernel

/-- `mab` upper/lower bands are NOT causal (for the driver's square root; the two sides differ already in
    which rows are NaN, which no choice of `sqrt` repairs).  Intended statement:
    `Causal (mabUpper sqrt fp sp du)`.  One deviation from the LAST `fast_period` rows is applied to every row.
    The middle band is causal (`causal_mab_middle`). -/
theorem mab_not_causal_witness :
    ([1, 2, 4] : List Rat).take 3 = ([1, 2, 4, 8] : List Rat).take 3
      ∧ (mabUpper sqrtNewton 2 3 1 [1, 2, 4]).take 3 ≠ (mabUpper sqrtNewton 2 3 1 [1, 2, 4, 8]).take 3
      ∧ (mabLower sqrtNewton 2 3 1 [1, 2, 4]).take 3 ≠ (mabLower sqrtNewton 2 3 1 [1, 2, 4, 8]).take 3 := by
  decide +kernel

theorem causal_mab_middle (fp : Nat) : Causal (mabMiddle fp) := (online_sma fp).causal

/-- `emd` is NOT causal (filter constants 1/2, 1/2).  Intended statement: `Causal (emdMiddle p a b)` etc.
    `bp_fast` reads `price[i-2]` at `i < 2` (the last two prices), `peak_valley_fast` reads `peak[i-1]` at
    `i = 0` (the last band-pass value). -/
theorem emd_not_causal_witness :
    wA.take 3 = wB.take 3
      ∧ (emdBp (1 / 2) (1 / 2) (hl2 wA)).take 3 ≠ (emdBp (1 / 2) (1 / 2) (hl2 wB)).take 3
      ∧ (emdMiddle 1 (1 / 2) (1 / 2) wA).take 3 ≠ (emdMiddle 1 (1 / 2) (1 / 2) wB).take 3
      ∧ (emdPeak true (emdBp (1 / 2) (1 / 2) (hl2 wA))).take 3 ≠ (emdPeak true (emdBp (1 / 2) (1 / 2) (hl2 wB))).take 3 := by
  decide +kernel

/-- `minmax`: the series computed on the prefix `c[:k]` equals the series computed on the full input in
    every row except the last `order` rows of the prefix — for the flags (is_min, is_max) and for the
    forward-filled last extrema (last_min, last_max).  (The exemption of C13.) -/
theorem minmax_causal_up_to_order (o : Nat) (cs : List Candle) (k : Nat) :
    (minmaxIsMin o (cs.take k)).take (k - o) = (minmaxIsMin o cs).take (k - o)
    ∧ (minmaxIsMax o (cs.take k)).take (k - o) = (minmaxIsMax o cs).take (k - o)
    ∧ (minmaxLastMin o (cs.take k)).take (k - o) = (minmaxLastMin o cs).take (k - o)
    ∧ (minmaxLastMax o (cs.take k)).take (k - o) = (minmaxLastMax o cs).take (k - o) := by
  have h (lt : Bool) (f : Candle → Rat) :
      (extrema lt o ((cs.take k).map f)).take (k - o) = (extrema lt o (cs.map f)).take (k - o) := by
    rw [List.map_take]; exact extrema_take lt o _ k
  -- the forward fill is a left-to-right loop, hence causal
  exact ⟨h _ _, h _ _, causal_scanState ffillStep none _ _ _ (h _ _), causal_scanState ffillStep none _ _ _ (h _ _)⟩

/-- the exemption is needed: a flag inside the last `order` rows of a prefix can be revoked by later candles -/
theorem minmax_tail_not_causal_witness :
    (minmaxIsMin 1 (wB.take 3)).take 3 ≠ (minmaxIsMin 1 wB).take 3
      ∨ (minmaxIsMax 1 (wB.take 3)).take 3 ≠ (minmaxIsMax 1 wB).take 3 := by decide +kernel

end C13

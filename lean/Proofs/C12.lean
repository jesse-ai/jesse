/-
  Proofs/C12.lean — fast mode reproduces the normal simulation when fills are unambiguous
  (theorems over the engine model; helper lemmas in Proofs/Lemmas/Quiet.lean).

  FULL STATEMENT (property C12): for a single-symbol session in which the normal simulation never fills more
  than one resting order inside one trading-candle span and no liquidation occurs, the fast simulator produces
  the same executed orders, closed trades and final balances.  PROVED HERE (partial): the two simulators leave
  the same trading state over every span in which NO resting order is reachable — i.e. fills are the only
  source of divergence; the spans that do contain (one) fill are decided by the paired-run oracle and the
  per-simulator correspondence (the `unproved` entry of evidence/C12.json).  Also here: two runs whose 1m arrays hold the same minutes
  read the same candles (`stores_agree`), and the minutes the fast simulator walks are the rows the normal simulator
  stores (`chunk_path_is_normal_rows`).
-/
import Proofs.Lemmas.Quiet
import Proofs.C02
import Proofs.C07.Inv

namespace C12
open Jesse Jesse.Eng Jesse.Gen Jesse.Acc QuietLemmas

variable {M : Type} [Inhabited M] (u : UserStrategy M)

/-- with a single 1m route the fast simulator's step is one minute -/
theorem step_one_minute : gcdList [1] = 1 := by decide

/-- QUIET MINUTE (normal simulator): a minute in which no active order of the symbol has its price inside the
    candle and no liquidation is possible only stores the candle and moves the current price — accounts,
    orders, strategy states and the trace are untouched, for every strategy. -/
theorem quiet_minute_partial (fuel : Nat) (e : Engine M) (sym : Nat) (c : Candle) (herr : e.err = none)
    (hq : executingOrders e sym c = []) (hl : NoLiq e sym) :
    simulateMinute u (fuel + 1) e sym c = setCurrentPrice (addCandle e sym 1 c) sym c.c :=
  quiet_minute u fuel e sym c herr hq hl

/-- QUIET CHUNK (fast simulator): a chunk whose aggregate candle contains no resting price, with no liquidation
    possible, only stores the candles, moves the clock and the current price. -/
theorem quiet_chunk_partial (fuel : Nat) (e : Engine M) (sym : Nat) (cs : List Candle) (real last : Candle) (short' : List Candle)
    (herr : e.err = none) (hgen : Store.generate 0 cs = .ok real) (hq : executingOrders e sym real = [])
    (hl : NoLiq e sym) (hadd : Store.addMultiple1m (storeOf e sym).short cs = .ok short') (hlast : cs.getLast? = some last) :
    simulateChunk u fuel e sym cs =
      setCurrentPrice { e with stores := upd e.stores sym (fun s => { s with short := short' }),
                               time := real.ts + 60000 * cs.length } sym last.c :=
  quiet_chunk u fuel e sym cs real last short' herr hgen hq hl hadd hlast

/-- BOTH SIMULATORS AGREE OVER A QUIET SPAN: for a chunk of valid candles (first row already jump-fixed, as both
    simulators do) whose aggregate candle contains no resting price of the symbol, with no liquidation
    possible: the step simulator — minute by minute over the rows it sees (every later row jump-fixed against
    its predecessor) — and the fast simulator — the chunk at once — end in the SAME trading state: accounts
    incl. current price, orders, strategy states, pending market orders, trace, error flag, equity samples. -/
theorem quiet_span_agree_partial (fuel : Nat) (e : Engine M) (sym : Nat) (cs : List Candle) (real last : Candle)
    (short' : List Candle) (herr : e.err = none) (hv : ∀ c ∈ cs, c.Valid) (hgen : Store.generate 0 cs = .ok real)
    (hq : executingOrders e sym real = []) (hl : NoLiq e sym)
    (hadd : Store.addMultiple1m (storeOf e sym).short cs = .ok short') (hlast : cs.getLast? = some last) :
    let r := (stepRows cs).foldl (stepMinute u fuel sym) e
    let f := simulateChunk u fuel e sym cs
    r.w = f.w ∧ r.log = f.log ∧ r.strat = f.strat ∧ r.toExecute = f.toExecute ∧ r.err = f.err ∧ r.via = f.via
    ∧ r.storage = f.storage ∧ r.liquidations = f.liquidations ∧ r.daily = f.daily := by
  -- the rows the step simulator sees aggregate to `real` as well: they lie inside its range and end on its close
  have hagg := C07.aggregate_of_generate hgen
  have hagg' := (aggregate_stepRows cs hv).trans hagg
  obtain ⟨hhi, _, hlo, _⟩ := C07.aggregate_extrema _ real hagg'
  exact quiet_span_agree u fuel e sym cs (stepRows cs) real last short' herr hgen hq hl hadd hlast
    (fun m hm => ⟨hlo m hm, hhi m hm⟩) (by rw [C07.aggregate_close hagg', ← C07.aggregate_close hagg, hlast]; rfl)

/-! ### non-vacuity: the engine of C02's example (resting buys at 97 and 103) and a two-minute chunk inside [99.5, 101] -/

def quietChunk : List Candle := [⟨60000, 100, 100.5, 101, 99.5, 1⟩, ⟨120000, 100.5, 100, 100.75, 99.75, 1⟩]
def quietReal : Candle := ⟨60000, 100, 100, 101, 99.5, 2⟩

example : C02.demoEngine.err = none ∧ (∀ c ∈ quietChunk, c.Valid) ∧ Store.generate 0 quietChunk = .ok quietReal
    ∧ executingOrders C02.demoEngine 0 quietReal = [] ∧ NoLiq C02.demoEngine 0
    ∧ Store.addMultiple1m (storeOf C02.demoEngine 0).short quietChunk = .ok quietChunk
    ∧ quietChunk.getLast? = some ⟨120000, 100.5, 100, 100.75, 99.75, 1⟩ := by
  refine ⟨by decide +kernel, by decide +kernel, by decide +kernel, by decide +kernel, ?_, by decide +kernel, by decide +kernel⟩
  left; left; decide +kernel

/-- and the conclusion is not trivial: the fast simulator moved the current price to the last close, 100 -/
example : ((simulateChunk C02.idle 50 C02.demoEngine 0 quietChunk).w.pos.map (·.current)) = [some 100] := by decide +kernel

/-! ### the candle stores of two runs

The run-level invariant of C07 (`EInv`, kept by both simulators for every strategy: `C07.runStepN_all`,
`C07.runSkipN_all`) determines what a reader gets from the store, and on a window boundary the stored arrays
themselves.  So two engines — with different strategy memories, different order books, different histories of fills,
e.g. the normal and the fast run of one session — whose 1m arrays hold the same minutes cannot differ in any candle a
strategy can read. -/

theorem stores_agree {M M' : Type} [Inhabited M] [Inhabited M'] (eA : Engine M) (eB : Engine M') (sym : Nat) (t0 : Int)
    (rows : List Candle) (m : Nat)
    (hcfg : C07.tfsRaw eB.cfg sym = C07.tfsRaw eA.cfg sym) (hal : C07.AlignedCfg eA.cfg sym t0)
    (hA : C07.EInv eA sym t0 rows) (hB : C07.EInv eB sym t0 rows) (hm : m ∈ C07.tfsRaw eA.cfg sym) :
    (storeOf eA sym).short = (storeOf eB sym).short ∧
    Store.getCandles (storeOf eA sym).short (longOf (storeOf eA sym) m) m
      = Store.getCandles (storeOf eB sym).short (longOf (storeOf eB sym) m) m ∧
    Store.getCurrentCandle (storeOf eA sym).short (longOf (storeOf eA sym) m) m
      = Store.getCurrentCandle (storeOf eB sym).short (longOf (storeOf eB sym) m) m ∧
    (rows.length % m = 0 → longOf (storeOf eA sym) m = longOf (storeOf eB sym) m) := by
  have halB : C07.AlignedCfg eB.cfg sym t0 := by
    unfold C07.AlignedCfg at hal ⊢
    rw [hcfg]; exact hal
  have hmB : m ∈ C07.tfsRaw eB.cfg sym := by rw [hcfg]; exact hm
  obtain ⟨a1, a2⟩ := C07.reader_sees_aggregates eA sym t0 rows m hal hA hm
  obtain ⟨b1, b2⟩ := C07.reader_sees_aggregates eB sym t0 rows m halB hB hmB
  exact ⟨hA.short.trans hB.short.symm, a1.trans b1.symm, a2.trans b2.symm,
    fun hb => ((hA.inv m hm).eq_visible hb).trans ((hB.inv m hmB).eq_visible hb).symm⟩

/-- THE MINUTES THE FAST SIMULATOR WALKS ARE THE MINUTES THE NORMAL SIMULATOR STORES: for a whole chunk `fixChunk` (each
    minute fixed against the previous RAW minute) gives the first minute as it comes and the others as the normal
    simulator writes them back and stores them (`C07.fixChain`: each fixed against the previous FIXED row) -/
theorem chunk_path_is_normal_rows (c0 : Candle) (rest : List Candle) :
    fixChunk none (c0 :: rest) = c0 :: C07.fixChain c0 rest := by
  simp only [fixChunk]
  rw [fixChunk_eq_fixChain rest c0 c0 rfl]

end C12

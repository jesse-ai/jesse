/-
  Proofs/C10.lean — smart order routing and declarative exits.  First the decision tables: statements about the
  GENERATED `_submit_buy_orders` / `_submit_sell_orders` loop bodies, the GENERATED broker methods and `is_price_near`,
  composed by the dispatch glue of Jesse/Routing.lean.  Then, over the engine model, what a reconciliation leaves of the
  orders that were there: the predicate `Inactive` (closed in the sense of Proofs/Lemmas/Closed.lean),
  `resubmit_leaves_no_previous_exit`, `execute_cancel_leaves_nothing_active`.
-/
import Jesse.Routing
import Proofs.Lemmas.Num
import Proofs.Lemmas.Frame

namespace C10
open Jesse Jesse.Gen Jesse.Routing

/-- `jh.is_price_near` with its default threshold: within 0.015 percent of the current price -/
def Near (p cur : Rat) : Prop := |1 - p / cur| ≤ 15 / 100000

instance (p cur : Rat) : Decidable (Near p cur) := by unfold Near; infer_instance

theorem near_iff (p cur : Rat) : isPriceNearD p cur ↔ Near p cur := by
  unfold isPriceNearD isPriceNear defaultThreshold Near
  rw [absR_eq_abs]

theorem near_self (cur : Rat) (h : cur ≠ 0) : Near cur cur := by
  unfold Near; rw [div_self h]; norm_num

theorem ne_of_not_near {p cur : Rat} (hc : 0 < cur) (hn : ¬ Near p cur) : p ≠ cur := by
  intro h; rw [h] at hn; exact hn (near_self cur (ne_of_gt hc))

/-- what an order submission looks like, stripped of the decidability plumbing -/
structure Sub where
  type : OrderType
  qty : Rat
  price : Rat
  side : Side
  reduceOnly : Bool
deriving DecidableEq, Repr

def view (a : ApiCall) : Sub := ⟨a.type, a.qty, a.price, a.side, decide a.reduceOnly⟩

theorem ite_yields {c : Prop} [Decidable c] {r r' : Except Err ApiCall} {s s' : Sub}
    (h : c → ∃ a, r = .ok a ∧ view a = s) (h' : ¬ c → ∃ a, r' = .ok a ∧ view a = s') :
    ∃ a, (if c then r else r') = .ok a ∧ view a = if c then s else s' := by
  by_cases hc : c
  · rw [if_pos hc, if_pos hc]; exact h hc
  · rw [if_neg hc, if_neg hc]; exact h' hc

/-- one row of `_submit_buy_orders`, decision and broker call together: the `ValueError` fall-through is unreachable,
    because a price outside the band differs from the (positive) price it is compared with -/
theorem entryBuy_eq (q p cur : Rat) {price : Rat} (hc : 0 < price) :
    entryBuy q p price cur =
      if Near p price then buyAtMarket q cur else if p > price then startProfitAt .buy q p cur else buyAt q p := by
  unfold entryBuy submitBuyDecision
  rw [if_congr (near_iff p price) rfl rfl]
  split_ifs with hn h h'
  · rfl
  · rfl
  · rfl
  · exact absurd (le_antisymm (not_lt.mp h) (not_lt.mp h')) (ne_of_not_near hc hn)

theorem entrySell_eq (q p cur : Rat) {price : Rat} (hc : 0 < price) :
    entrySell q p price cur =
      if Near p price then sellAtMarket q cur else if p < price then startProfitAt .sell q p cur else sellAt q p := by
  unfold entrySell submitSellDecision
  rw [if_congr (near_iff p price) rfl rfl]
  split_ifs with hn h h'
  · rfl
  · rfl
  · rfl
  · exact absurd (le_antisymm (not_lt.mp h') (not_lt.mp h)) (ne_of_not_near hc hn)

/-- ENTRY (buy side).  For a non-zero quantity and a non-negative price, with the strategy price
    equal to the position's current price `cur > 0`: exactly one order of quantity |q| is submitted,
    not reduce-only, on the buy side; MARKET at the current price when p is within 0.015 % of it,
    otherwise at exactly p: STOP if p is above (worse), LIMIT if below (better). Never an error. -/
theorem entry_routing_buy (q p cur : Rat) (hq : q ≠ 0) (hp : 0 ≤ p) (hc : 0 < cur) :
    ∃ a, entryBuy q p cur cur = .ok a ∧ view a =
      (if Near p cur then ⟨.market, |q|, cur, .buy, false⟩
       else if p > cur then ⟨.stop, |q|, p, .buy, false⟩
       else ⟨.limit, |q|, p, .buy, false⟩) := by
  have hv : validateQty q = .ok () := if_neg hq
  rw [entryBuy_eq q p cur hc, ← absR_eq_abs]
  unfold buyAtMarket startProfitAt buyAt
  simp only [hv, if_neg (not_lt.mpr hp)]
  refine ite_yields (fun _ => ⟨_, rfl, rfl⟩) (fun _ => ite_yields (fun h => ?_) (fun _ => ⟨_, rfl, rfl⟩))
  rw [if_neg (fun h' => lt_asymm h h'.2), if_neg (fun h' => Side.noConfusion h'.1)]
  exact ⟨_, rfl, rfl⟩

/-- ENTRY (sell side), mirrored: STOP below the current price (worse), LIMIT above (better). -/
theorem entry_routing_sell (q p cur : Rat) (hq : q ≠ 0) (hp : 0 ≤ p) (hc : 0 < cur) :
    ∃ a, entrySell q p cur cur = .ok a ∧ view a =
      (if Near p cur then ⟨.market, |q|, cur, .sell, false⟩
       else if p < cur then ⟨.stop, |q|, p, .sell, false⟩
       else ⟨.limit, |q|, p, .sell, false⟩) := by
  have hv : validateQty q = .ok () := if_neg hq
  rw [entrySell_eq q p cur hc, ← absR_eq_abs]
  unfold sellAtMarket startProfitAt sellAt
  simp only [hv, if_neg (not_lt.mpr hp)]
  refine ite_yields (fun _ => ⟨_, rfl, rfl⟩) (fun _ => ite_yields (fun h => ?_) (fun _ => ⟨_, rfl, rfl⟩))
  rw [if_neg (fun h' => Side.noConfusion h'.1), if_neg (fun h' => lt_asymm h h'.2)]
  exact ⟨_, rfl, rfl⟩

def closingSide : PosType → Side
  | .long => .sell | .short => .buy | .close => .buy

/-- EXIT.  For an open position, a non-zero quantity, a non-negative price and a positive current
    price: exactly one reduce-only order of quantity |q| at exactly price p on the closing side;
    MARKET within 0.015 %, otherwise LIMIT on the profit side and STOP on the loss side.
    The `OrderNotAllowed` fall-through is unreachable. -/
theorem exit_routing (q p cur : Rat) (t : PosType) (ht : t ≠ .close) (hq : q ≠ 0) (hp : 0 ≤ p)
    (hc : 0 < cur) :
    ∃ a, reducePositionAt q p cur t = .ok a ∧ view a =
      (if Near p cur then ⟨.market, |q|, p, closingSide t, true⟩
       else if (t = .long ∧ p > cur) ∨ (t = .short ∧ p < cur) then ⟨.limit, |q|, p, closingSide t, true⟩
       else ⟨.stop, |q|, p, closingSide t, true⟩) := by
  have hv : validateQty q = .ok () := if_neg hq
  unfold reducePositionAt
  simp only [hv, if_neg (not_lt.mpr hp), if_neg ht, near_iff, absR_eq_abs, abs_abs]
  cases t
  · simp only [typeToSide, oppositeSide, if_true, if_false, reduceCtorEq, true_and, false_and, or_false]
    refine ite_yields (fun _ => ⟨_, rfl, rfl⟩) (fun hn => ite_yields (fun _ => ⟨_, rfl, rfl⟩) (fun h => ?_))
    rw [if_pos (lt_of_le_of_ne (not_lt.mp h) (ne_of_not_near hc hn))]
    exact ⟨_, rfl, rfl⟩
  · simp only [typeToSide, oppositeSide, if_true, if_false, reduceCtorEq, true_and, false_and, false_or]
    refine ite_yields (fun _ => ⟨_, rfl, rfl⟩) (fun hn => ite_yields (fun _ => ⟨_, rfl, rfl⟩) (fun h => ?_))
    rw [if_pos (lt_of_le_of_ne (not_lt.mp h) (ne_of_not_near hc hn).symm)]
    exact ⟨_, rfl, rfl⟩
  · exact absurd rfl ht

/-- An exit request without an open position is refused. -/
theorem exit_refused_when_closed (q p cur : Rat) (hq : q ≠ 0) (hp : 0 ≤ p) :
    reducePositionAt q p cur .close = .error .OrderNotAllowed := by
  have hnp : ¬ p < 0 := not_lt.mpr hp
  unfold reducePositionAt
  simp [validateQty, hq, hnp]

/-- A zero quantity is always refused (entry and exit). -/
theorem zero_qty_refused (p cur : Rat) (t : PosType) (hc : 0 < cur) :
    reducePositionAt 0 p cur t = .error .InvalidStrategy ∧
    entryBuy 0 p cur cur = .error .InvalidStrategy ∧ entrySell 0 p cur cur = .error .InvalidStrategy := by
  have hv : validateQty 0 = .error .InvalidStrategy := if_pos rfl
  refine ⟨?_, ?_, ?_⟩
  · unfold reducePositionAt; rw [hv]
  · rw [entryBuy_eq 0 p cur hc]; unfold buyAtMarket startProfitAt buyAt; simp only [hv, ite_self]
  · rw [entrySell_eq 0 p cur hc]; unfold sellAtMarket startProfitAt sellAt; simp only [hv, ite_self]

/-- non-vacuity: the 0.015 % boundary itself is MARKET, one tick outside is LIMIT -/
example : Near (100 + 15/1000) 100 ∧ ¬ Near (100 + 16/1000) 100 := by decide +kernel
example : (match reducePositionAt 1 (10016/100) 100 .long with
    | .ok a => decide (view a = ⟨.limit, 1, 10016/100, .sell, true⟩) | _ => false) = true := by
  decide +kernel

end C10

/-! ### no stale exit survives a modification (engine model, one reconciliation)

When the strategy layer handles a modified stop-loss / take-profit declaration (`resubmitExits`, the exit part of
`_detect_and_handle_entry_and_exit_modifications`), every exit order that was active and tagged with that kind BEFORE
the call is not active after it — whatever the new rows are and however many of them are accepted or rejected. -/
namespace C10
open Jesse Jesse.Eng Jesse.Gen Jesse.Acc FrameLemmas

section reconcile
variable {M : Type}

def Inactive (id : Nat) (e : Engine M) : Prop := id < e.w.orders.length ∧ (orderOf e id).status ≠ .active

theorem Inactive.closed (id : Nat) : Closed (Inactive (M := M) id) where
  step hp hw _ _ := ⟨Nat.lt_of_lt_of_le hp.1 hw.len, fun ha => hp.2 (hw.noRevive id hp.1 ha)⟩

theorem cancelOrder_via (e : Engine M) (x : Nat) : (cancelOrder e x).via = e.via := by
  fun_cases cancelOrder e x <;> rfl

variable [Inhabited M]

/-- cancelling an order that exists leaves it non-active -/
theorem cancelOrder_not_active (e : Engine M) (id : Nat) (hid : id < e.w.orders.length) :
    (orderOf (cancelOrder e id) id).status ≠ .active := by
  fun_cases cancelOrder e id
  · exact cancel_not_active e.w hid
  · assumption

theorem cancelOrder_inactive (e : Engine M) {id : Nat} (hid : id < e.w.orders.length) : Inactive id (cancelOrder e id) :=
  ⟨Nat.lt_of_lt_of_le hid ((EExt.closed e).cancelOrder id (.refl e)).len, cancelOrder_not_active e id hid⟩

/-- NO STALE EXIT SURVIVES A MODIFICATION -/
theorem resubmit_leaves_no_previous_exit (e : Engine M) (r : Nat) (isStop : Bool) (rows : Rows) (id : Nat)
    (hid : id < e.w.orders.length)
    (hmem : id ∈ activeExitOrders e (routeOf e r).sym)
    (hvia : e.via.getD id none = some (if isStop then Via.stopLoss else Via.takeProfit)) :
    (orderOf (resubmitExits e r isStop rows) id).status ≠ .active := by
  have hI := Inactive.closed (M := M) id
  suffices h : Inactive id (resubmitExits e r isStop rows) from h.2
  -- the new submissions never revive an order
  refine foldl_keeps (fun _ _ hx => ite_keeps hx (ite_keeps hx (hI.brokerSubmit _ _ _ hx))) _ ?_
  -- the cancellation loop leaves the tags alone; when it comes to `id`, the order is cancelled or was not active
  refine foldl_hits (Q := fun b => EExt e b ∧ b.via = e.via) (fun b x hb => ?_) (fun b hb => ?_)
    (fun _ _ hx => ite_keeps (hI.cancelOrder _ hx) hx) hmem ⟨.refl e, rfl⟩
  · exact ite_keeps (P := fun b => EExt e b ∧ b.via = e.via)
      ⟨(EExt.closed e).cancelOrder x hb.1, (cancelOrder_via b x).trans hb.2⟩ hb
  · have hl : id < b.w.orders.length := Nat.lt_of_lt_of_le hid hb.1.len
    exact ite_elim _ _ _ _ (fun _ => cancelOrder_inactive b hl) (fun hc => ⟨hl, fun ha => hc ⟨hb.2 ▸ hvia, ha⟩⟩)

/-- ONCE THE POSITION IS CLOSED NOTHING STAYS ACTIVE: `_execute_cancel` (run when a position closes and when resting
    entries are given up) leaves no order of the symbol's registry active — whatever the other routes do when the
    event is broadcast to them — or ends with the error flag set (set on entry, or raised because the position is still open). -/
theorem execute_cancel_leaves_nothing_active (e : Engine M) (r : Nat) (id : Nat)
    (hid : id < e.w.orders.length) (hmem : id ∈ Acc.getD e.w.active (routeOf e r).sym) :
    (orderOf (executeCancel e r) id).status ≠ .active ∨ (executeCancel e r).err.isSome := by
  have hI := Inactive.closed (M := M) id
  fun_cases executeCancel e r
  · right; assumption
  · exact .inr (fail_err _ _)
  · left
    -- storage reset, strategy reset, broadcast, log: none revives an order
    refine (hI.logE _ (hI.broadcast _ (hI.resetStrategy _ (hI.of_eq (?_ : Inactive id _) rfl rfl rfl)))).2
    exact foldl_hits (P := Inactive id) (Q := EExt e) (fun _ x => (EExt.closed e).cancelOrder x)
      (fun b hb => cancelOrder_inactive b (Nat.lt_of_lt_of_le hid hb.len)) (fun _ _ => hI.cancelOrder _) hmem (.refl e)

end reconcile

end C10

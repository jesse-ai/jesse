/-
  Proofs/C20.lean — candle series handed to the store are gapless and strictly ordered.
  `_fill_absent_candles` (model Jesse/FillAbsent.lean, tied by the correspondence check harness/props/c20.py): the
  loop is read through its state before iteration `k` (`stateAt`), so that each `fill_*` / `fillLoop_flat*` claim is a
  lookup of the `k`-th output (`fillLoop_get`).
  The candle store (list model Jesse/Store.lean): `add_candle` keeps the timestamps strictly increasing (`Sorted`), and
  where a candle lands. The store on the array class (Jesse/StoreD.lean, on the array model of C18) is that list
  algorithm. The spacing check of the isolated backtest.
-/
import Jesse.FillAbsent
import Jesse.Store
import Proofs.Lemmas.Num
import Proofs.Lemmas.Loops
import Proofs.Lemmas.ListFacts
import Proofs.Lemmas.StoreArray

namespace C20
open Jesse Jesse.FillAbsent

/-- what one iteration of the loop emits at timestamp `ts` in state (`started`, `lastClose`) -/
def emit (temp : List Candle) (fo : Rat) (ts : Int) (st : Bool) (lc : Rat) : Candle :=
  match temp.find? (fun c => c.ts = ts) with
  | some c => c
  | none => flat ts (if st then lc else fo)

theorem emit_ts (temp : List Candle) (fo : Rat) (ts : Int) (st : Bool) (lc : Rat) : (emit temp fo ts st lc).ts = ts := by
  unfold emit
  cases hf : temp.find? (fun c => c.ts = ts) with
  | some c => exact of_decide_eq_true (List.find?_some hf :)
  | none => rfl

/-- the loop state (`started`, `lastClose`) before iteration `k` -/
def stateAt (temp : List Candle) (fo : Rat) (ts : Int) (st : Bool) (lc : Rat) : Nat → Bool × Rat
  | 0 => (st, lc)
  | k + 1 =>
    let s := stateAt temp fo ts st lc k
    (s.1 || (temp.find? (fun c => c.ts = ts + 60000 * (k : Int))).isSome,
      (emit temp fo (ts + 60000 * (k : Int)) s.1 s.2).c)

theorem fillLoop_succ (temp : List Candle) (fo : Rat) (n : Nat) (ts : Int) (st : Bool) (lc : Rat) :
    fillLoop temp fo (n + 1) ts st lc = emit temp fo ts st lc ::
      fillLoop temp fo n (ts + 60000) (st || (temp.find? (fun c => c.ts = ts)).isSome) (emit temp fo ts st lc).c := by
  unfold emit
  rw [fillLoop]
  cases temp.find? (fun c => c.ts = ts) with
  | some c => simp only [Option.isSome_some, Bool.or_true]
  | none => simp only [Option.isSome_none, Bool.or_false]; rfl

theorem minute_succ (ts : Int) (k : Nat) : ts + 60000 * ((k + 1 : Nat) : Int) = ts + 60000 + 60000 * (k : Int) := by
  omega

theorem stateAt_succ (temp : List Candle) (fo : Rat) (ts : Int) (st : Bool) (lc : Rat) (k : Nat) :
    stateAt temp fo (ts + 60000) (st || (temp.find? (fun c => c.ts = ts)).isSome) (emit temp fo ts st lc).c k =
      stateAt temp fo ts st lc (k + 1) := by
  induction k with
  | zero => simp only [stateAt, Int.natCast_zero, Int.mul_zero, Int.add_zero]
  | succ k ih => rw [stateAt, ih, ← minute_succ]; rfl

theorem fillLoop_get (temp : List Candle) (fo : Rat) (n : Nat) (ts : Int) (st : Bool) (lc : Rat) (k : Nat) (hk : k < n) :
    (fillLoop temp fo n ts st lc)[k]? = some (emit temp fo (ts + 60000 * (k : Int))
      (stateAt temp fo ts st lc k).1 (stateAt temp fo ts st lc k).2) := by
  induction n generalizing ts st lc k with
  | zero => omega
  | succ n ih =>
    rw [fillLoop_succ]
    cases k with
    | zero => simp only [List.getElem?_cons_zero, stateAt, Int.natCast_zero, Int.mul_zero, Int.add_zero]
    | succ k => rw [List.getElem?_cons_succ, ih _ _ _ k (by omega), stateAt_succ, minute_succ]

theorem started_iff (temp : List Candle) (fo : Rat) (ts : Int) (st : Bool) (lc : Rat) (k : Nat) :
    (stateAt temp fo ts st lc k).1 = true ↔
      st = true ∨ ∃ j, j < k ∧ (temp.find? (fun c => c.ts = ts + 60000 * (j : Int))).isSome := by
  induction k with
  | zero => exact ⟨Or.inl, fun h => h.elim id fun ⟨j, hj, _⟩ => absurd hj (Nat.not_lt_zero j)⟩
  | succ k ih =>
    rw [stateAt, Bool.or_eq_true, ih]
    constructor
    · rintro ((h | ⟨j, hj, h⟩) | h)
      · exact Or.inl h
      · exact Or.inr ⟨j, Nat.lt_succ_of_lt hj, h⟩
      · exact Or.inr ⟨k, Nat.lt_succ_self k, h⟩
    · rintro (h | ⟨j, hj, h⟩)
      · exact Or.inl (Or.inl h)
      · rcases Nat.lt_succ_iff_lt_or_eq.mp hj with hj | rfl
        · exact Or.inl (Or.inr ⟨j, hj, h⟩)
        · exact Or.inr h

theorem fillLoop_length (temp : List Candle) (fo : Rat) (n : Nat) (ts : Int) (st : Bool) (lc : Rat) :
    (fillLoop temp fo n ts st lc).length = n := by
  induction n generalizing ts st lc with
  | zero => rfl
  | succ n ih => rw [fillLoop_succ, List.length_cons, ih]

theorem fillAbsent_ok {temp : List Candle} {start stop : Int} {out : List Candle}
    (h : fillAbsent temp start stop = .ok out) :
    ∃ fo, out = fillLoop temp fo (loopLength start stop) start false fo := by
  cases temp with
  | nil => cases h
  | cons first rest => exact ⟨first.o, (Except.ok.inj h).symm⟩

theorem loopLength_aligned (start : Int) (k : Nat) : loopLength start (start + 60000 * k) = k + 1 := by
  have e : (((start + 60000 * (k : Int) - start : Int) : Rat) / 60000 + 1) = ((k + 1 : Nat) : Rat) := by
    rw [show start + 60000 * (k : Int) - start = 60000 * (k : Int) by omega, Int.cast_mul, Int.cast_ofNat,
      mul_div_cancel_left₀ _ (by norm_num), Int.cast_natCast, Nat.cast_add, Nat.cast_one]
  rw [loopLength, e, if_neg (not_lt.mpr (Nat.cast_nonneg _)), ← Int.cast_natCast, Rat.floor_intCast, Int.toNat_natCast]

/-- exactly one candle per minute of the requested interval (whole minutes, `start ≤ end`, some candle provided) -/
theorem fill_length (temp : List Candle) (start stop : Int) (h : temp ≠ []) (hse : start ≤ stop)
    (hal : (stop - start) % 60000 = 0) :
    ∃ out, fillAbsent temp start stop = .ok out ∧ (out.length : Int) = (stop - start) / 60000 + 1 := by
  obtain ⟨k, rfl⟩ : ∃ k : Nat, stop = start + 60000 * (k : Int) := ⟨((stop - start) / 60000).toNat, by omega⟩
  cases temp with
  | nil => exact absurd rfl h
  | cons first rest => exact ⟨_, rfl, by rw [fillLoop_length, loopLength_aligned]; omega⟩

/-- the k-th candle carries the k-th minute: timestamps are `start + 60000·k`, strictly increasing -/
theorem fill_timestamps (temp : List Candle) (start stop : Int) (out : List Candle)
    (h : fillAbsent temp start stop = .ok out) (k : Nat) (hk : k < out.length) :
    (out[k]?).map (·.ts) = some (start + 60000 * k) := by
  obtain ⟨fo, rfl⟩ := fillAbsent_ok h
  rw [fillLoop_get _ _ _ _ _ _ k (by rwa [fillLoop_length] at hk), Option.map_some, emit_ts]

/-- every provided candle is kept unchanged at its minute (the first one with that timestamp) -/
theorem fill_keeps_provided (temp : List Candle) (start stop : Int) (out : List Candle)
    (h : fillAbsent temp start stop = .ok out) (k : Nat) (hk : k < out.length) (c : Candle)
    (hc : temp.find? (fun c => c.ts = start + 60000 * k) = some c) :
    out[k]? = some c := by
  obtain ⟨fo, rfl⟩ := fillAbsent_ok h
  rw [fillLoop_get _ _ _ _ _ _ k (by rwa [fillLoop_length] at hk), emit, hc]

/-- a missing minute becomes a flat zero-volume candle: open = high = low = close, volume 0, at the
    close of the previous output candle once any provided candle has been seen … -/
theorem fillLoop_flat (temp : List Candle) (fo : Rat) (n : Nat) (ts : Int) (st : Bool) (lc : Rat)
    (k : Nat) (hk : k + 1 < n)
    (hmiss : temp.find? (fun c => c.ts = ts + 60000 * ((k + 1 : Nat) : Int)) = none)
    (hstarted : st = true ∨ ∃ j, j ≤ k ∧ (temp.find? (fun c => c.ts = ts + 60000 * (j : Int))).isSome) :
    ∃ prev, (fillLoop temp fo n ts st lc)[k]? = some prev ∧
      (fillLoop temp fo n ts st lc)[k + 1]? = some (flat (ts + 60000 * ((k + 1 : Nat) : Int)) prev.c) := by
  have hst : (stateAt temp fo ts st lc (k + 1)).1 = true :=
    (started_iff ..).mpr (hstarted.imp_right fun ⟨j, hj, hf⟩ => ⟨j, Nat.lt_succ_of_le hj, hf⟩)
  refine ⟨_, fillLoop_get temp fo n ts st lc k (by omega), ?_⟩
  rw [fillLoop_get temp fo n ts st lc (k + 1) hk, emit, hmiss, hst]
  rfl

/-- … and at the first known open before any provided candle has been seen. -/
theorem fillLoop_flat_before (temp : List Candle) (fo : Rat) (n : Nat) (ts : Int) (lc : Rat)
    (k : Nat) (hk : k < n)
    (hnone : ∀ j, j ≤ k → temp.find? (fun c => c.ts = ts + 60000 * (j : Int)) = none) :
    (fillLoop temp fo n ts false lc)[k]? = some (flat (ts + 60000 * (k : Int)) fo) := by
  have hst : (stateAt temp fo ts false lc k).1 = false :=
    Bool.eq_false_iff.mpr fun h => by
      obtain h0 | ⟨j, hj, hf⟩ := (started_iff ..).mp h
      · cases h0
      · rw [hnone j (Nat.le_of_lt hj)] at hf; cases hf
  rw [fillLoop_get temp fo n ts false lc k hk, emit, hnone k (Nat.le_refl k), hst]
  rfl

open Jesse.Store

def Sorted (arr : List Candle) : Prop := arr.Pairwise (fun a b => a.ts < b.ts)

theorem replaceFirst_ts (arr : List Candle) (c : Candle) :
    (replaceFirst arr c).map (·.ts) = arr.map (·.ts) := by
  induction arr with
  | nil => rfl
  | cons x xs ih =>
    unfold replaceFirst
    split
    · rename_i h; rw [List.map_cons, List.map_cons, h]
    · rw [List.map_cons, List.map_cons, ih]

theorem replaceFromEnd_ts (arr : List Candle) (c : Candle) :
    (replaceFromEnd arr c).map (·.ts) = arr.map (·.ts) := by
  unfold replaceFromEnd
  rw [List.map_reverse, replaceFirst_ts, ← List.map_reverse, List.reverse_reverse]

theorem sorted_iff_ts (arr : List Candle) :
    Sorted arr ↔ (arr.map (·.ts)).Pairwise (· < ·) := by
  unfold Sorted; rw [List.pairwise_map]

theorem sorted_snoc (init : List Candle) (x : Candle) :
    Sorted (init ++ [x]) ↔ Sorted init ∧ ∀ a ∈ init, a.ts < x.ts := by
  rw [Sorted, List.pairwise_append]
  exact ⟨fun ⟨h1, _, h3⟩ => ⟨h1, fun a ha => h3 a ha x (List.mem_singleton_self x)⟩,
    fun ⟨h1, h3⟩ => ⟨h1, List.pairwise_singleton _ _, fun a ha b hb => List.mem_singleton.mp hb ▸ h3 a ha⟩⟩

/-- whatever candle is added (new, repeated, older, timestamp 0), to the array of any timeframe, the stored timestamps
    stay strictly increasing … -/
theorem add_candle_sorted (arr : List Candle) (c : Candle) (hs : Sorted arr) :
    Sorted (addCandle arr c) := by
  by_cases hz : c.ts = 0
  · rw [addCandle_zero arr c hz]; exact hs
  cases hl : arr.getLast? with
  | none =>
    obtain rfl := List.getLast?_eq_none_iff.mp hl
    rw [addCandle_nil c hz]; exact List.pairwise_singleton _ _
  | some last =>
    obtain ⟨init, rfl⟩ := List.getLast?_eq_some_iff.mp hl
    obtain ⟨hi, hlt⟩ := (sorted_snoc init last).mp hs
    rcases Int.lt_trichotomy last.ts c.ts with hgt | heq | hold
    · rw [addCandle_new hl c hz hgt]
      exact (sorted_snoc _ c).mpr ⟨hs, fun a ha => (List.mem_append.mp ha).elim
        (fun h => Int.lt_trans (hlt a h) hgt) (fun h => List.mem_singleton.mp h ▸ hgt)⟩
    · rw [addCandle_last hl c hz heq.symm, List.dropLast_concat]
      exact (sorted_snoc init c).mpr ⟨hi, fun a ha => heq ▸ hlt a ha⟩
    · rw [addCandle_older hl c hz hold, sorted_iff_ts, replaceFromEnd_ts, ← sorted_iff_ts]; exact hs

/-- … hence for every sequence of additions starting from an empty array. -/
theorem store_strictly_increasing (cs : List Candle) : Sorted (batchAdd [] cs) :=
  foldl_keeps add_candle_sorted cs List.Pairwise.nil

/-- a candle (timestamp ≠ 0) newer than the last stored one is appended -/
theorem new_appends (arr : List Candle) (c last : Candle) (hl : arr.getLast? = some last)
    (hz : c.ts ≠ 0) (hgt : last.ts < c.ts) : addCandle arr c = arr ++ [c] :=
  addCandle_new hl c hz hgt

theorem first_appends (c : Candle) (hz : c.ts ≠ 0) : addCandle [] c = [c] :=
  addCandle_nil c hz

theorem addCandle_set (arr : List Candle) (c x : Candle) (k : Nat) (hz : c.ts ≠ 0) (hk : arr[k]? = some x)
    (hx : x.ts = c.ts) (hlater : ∀ y ∈ arr.drop (k + 1), c.ts < y.ts) : addCandle arr c = arr.set k c := by
  obtain ⟨hklt, rfl⟩ := List.getElem?_eq_some_iff.mp hk
  cases hl : (arr.drop (k + 1)).getLast? with
  | none =>
    -- `k` is the last row
    have hkl : arr.length ≤ k + 1 := List.drop_eq_nil_iff.mp (List.getLast?_eq_none_iff.mp hl)
    obtain rfl : k = arr.length - 1 := by omega
    rw [addCandle_last (List.getLast?_eq_getElem?.trans hk) c hz hx.symm]
    exact (set_last arr c (List.ne_nil_of_length_pos (by omega))).symm
  | some last =>
    have hl' : arr.getLast? = some last := by
      rw [← List.take_append_drop (k + 1) arr, List.getLast?_append, hl]; rfl
    rw [addCandle_older hl' c hz (hlater last (List.mem_of_getLast? hl))]
    exact replaceFromEnd_set arr c _ k hk hx (fun y hy => Int.ne_of_gt (hlater y hy))

/-- in a strictly increasing array a candle (timestamp ≠ 0) with the timestamp of a stored candle replaces exactly
    that candle (all other rows and the length are unchanged) -/
theorem same_timestamp_replaces (arr : List Candle) (c : Candle) (hs : Sorted arr) (hz : c.ts ≠ 0)
    (k : Nat) (x : Candle) (hk : arr[k]? = some x) (hx : x.ts = c.ts) :
    addCandle arr c = arr.set k c := by
  refine addCandle_set arr c x k hz hk hx fun y hy => ?_
  obtain ⟨hklt, rfl⟩ := List.getElem?_eq_some_iff.mp hk
  have hsp : (arr[k] :: arr.drop (k + 1)).Pairwise (fun a b => a.ts < b.ts) :=
    List.drop_eq_getElem_cons hklt ▸ hs.drop
  exact hx ▸ (List.pairwise_cons.mp hsp).1 y hy

/-! `Jesse/StoreD.lean` is `add_candle` written with the calls the Python makes on its `DynamicNumpyArray`
(`len`, `arr[-1]`, `append`, `arr[-1] = c`, the search `arr[-i]` / `arr[-i] = c`), on the array model of C18.
The theorems below say that, on the array's logical content, it IS the list algorithm the rest of this file (and the
engine model) reasons about — for every array state that satisfies the class invariant, every bucket size, every
candle: the composition C18 ∘ C20. -/

section
open Jesse.StoreD StoreArray Jesse.DynArray

theorem addCandleD_holds (a : DynArray) (arr : List Candle) (c : Candle) (h : Holds a arr) :
    ∃ a', addCandleD a (enc c) = .ok a' ∧ Holds a' (Store.addCandle arr c) := by
  unfold addCandleD
  rw [ts_enc, h.len]
  by_cases hz : c.ts = 0
  · rw [if_pos (by rw [hz]; rfl), addCandle_zero arr c hz]
    exact ⟨a, rfl, h⟩
  rw [if_neg (by rwa [Rat.intCast_eq_zero_iff])]
  cases hl : arr.getLast? with
  | none =>
    obtain rfl : arr = [] := List.getLast?_eq_none_iff.mp hl
    rw [addCandle_nil c hz]
    exact h.append c
  | some last =>
    have hne : arr ≠ [] := fun h0 => by rw [h0] at hl; cases hl
    have hpos : 0 < arr.length := List.length_pos_iff.mpr hne
    rw [if_neg (by omega), h.getItem_last hl]
    simp only [ts_enc, gt_iff_lt, Rat.intCast_lt_intCast, Rat.intCast_inj]
    rcases Int.lt_trichotomy last.ts c.ts with hgt | heq | hlt
    · rw [if_pos hgt, addCandle_new hl c hz hgt]
      exact h.append c
    · rw [if_neg (by omega), if_pos heq.symm, addCandle_last hl c hz heq.symm]
      exact set_last arr c hne ▸ h.setItem_neg c 1 (Nat.le_refl 1) hpos
    · rw [if_neg (by omega), if_neg (by omega), Int.toNat_natCast, addCandle_older hl c hz hlt]
      exact h.replaceLoop c arr.length 1 (Nat.le_refl 1) rfl
        (by rw [List.drop_length]; exact fun _ hy => nomatch hy)

/-- ONE `add_candle` on the array = `addCandle` on the list it holds; it never raises, and the class invariant and
    the absence of `drop_at` carry over -/
theorem addCandleD_refines (a : DynArray) (h : Inv a) (hd : a.dropAt = none) (arr : List Candle) (c : Candle)
    (habs : a.abs = arr.map enc) :
    ∃ a', addCandleD a (enc c) = .ok a' ∧ a'.abs = (Store.addCandle arr c).map enc ∧ Inv a' ∧ a'.dropAt = none :=
  Holds.unpack (addCandleD_holds a arr c ⟨h, hd, habs⟩)

/-- ANY sequence of `add_candle` calls on the array = `batchAdd` on the list it holds -/
theorem batchAddD_refines (cs : List Candle) : ∀ (a : DynArray) (arr : List Candle), Inv a → a.dropAt = none →
    a.abs = arr.map enc →
    ∃ a', batchAddD a (cs.map enc) = .ok a' ∧ a'.abs = (Store.batchAdd arr cs).map enc ∧ Inv a' ∧ a'.dropAt = none := by
  induction cs with
  | nil => intro a arr h hd habs; exact ⟨a, rfl, habs, h, hd⟩
  | cons c cs ih =>
    intro a arr h hd habs
    obtain ⟨a1, hok, hh⟩ := addCandleD_holds a arr c ⟨h, hd, habs⟩
    obtain ⟨a2, hok2, ha2, hi2, hd2⟩ := ih a1 (Store.addCandle arr c) hh.inv hh.nodrop hh.abs
    exact ⟨a2, by rw [List.map_cons, batchAddD, hok]; exact hok2, ha2, hi2, hd2⟩

/-- from a fresh array of any bucket size: whatever candles are added in whatever order, no call raises and the rows
    the array holds are the candles of a strictly increasing series -/
theorem store_on_array_strictly_increasing (bucket : Nat) (hb : 0 < bucket) (cs : List Candle) :
    ∃ a' arr, batchAddD (DynArray.new bucket 6 none) (cs.map enc) = .ok a' ∧ a'.abs = arr.map enc ∧ Sorted arr := by
  obtain ⟨hinv, habs⟩ := C18.inv_new bucket 6 none hb
  obtain ⟨a', hok, ha, _, _⟩ := batchAddD_refines cs (DynArray.new bucket 6 none) [] hinv rfl habs
  exact ⟨a', Store.batchAdd [] cs, hok, ha, store_strictly_increasing cs⟩

/-- `add_multiple_1m_candles` on the array = `addMultiple1m` on the list it holds — same result, same IndexError —
    whenever the chunk is entirely new or ENDS AT THE LAST STORED MINUTE (the two ways the fast simulator calls it:
    a fresh chunk, and the chunk whose minutes were already stored one by one while orders were matched).
    A chunk that ends later than the stored series but overlaps it writes past the logical end of the array and is
    left to C18 + correspondence. -/
theorem addMultipleD_refines (a : DynArray) (h : Inv a) (hd : a.dropAt = none) (arr cs : List Candle)
    (habs : a.abs = arr.map enc)
    (hcase : ∀ last cl, arr.getLast? = some last → cs.getLast? = some cl →
      (∃ c0, cs.head? = some c0 ∧ last.ts < c0.ts) ∨ cl.ts = last.ts) :
    match Store.addMultiple1m arr cs with
    | .ok out => ∃ a', addMultipleD a (cs.map enc) = .ok a' ∧ a'.abs = out.map enc ∧ Inv a' ∧ a'.dropAt = none
    | .error e => addMultipleD a (cs.map enc) = .error e := by
  have hh : Holds a arr := ⟨h, hd, habs⟩
  unfold addMultipleD Store.addMultiple1m
  rw [List.head?_map, List.getLast?_map, hh.len]
  cases hc0 : cs.head? with
  | none => rfl
  | some c0 =>
    cases hcl : cs.getLast? with
    | none => rfl
    | some cl =>
      simp only [Option.map_some]
      have hcpos : 0 < cs.length := List.length_pos_iff.mpr (fun h0 => by rw [h0] at hc0; cases hc0)
      cases hl : arr.getLast? with
      | none =>
        obtain rfl : arr = [] := List.getLast?_eq_none_iff.mp hl
        exact Holds.unpack (hh.appendMultiple cs)
      | some last =>
        have hpos : 0 < arr.length := List.length_pos_iff.mpr (fun h0 => by rw [h0] at hl; cases hl)
        rw [if_neg (by omega), hh.getItem_last hl]
        simp only [ts_enc, gt_iff_lt, ge_iff_le, Rat.intCast_lt_intCast, Rat.intCast_le_intCast]
        by_cases hgt : last.ts < c0.ts
        · rw [if_pos hgt, if_pos hgt]; exact Holds.unpack (hh.appendMultiple cs)
        · rw [if_neg hgt, if_neg hgt, List.length_map, hh.getItem_neg]
          have heq : cl.ts = last.ts := by
            rcases hcase last cl hl hcl with ⟨c0', hc, hlt⟩ | hc
            · rw [hc0] at hc; injection hc with hc; exact absurd (hc ▸ hlt) hgt
            · exact hc
          cases hx : Py.getIdx arr (-(cs.length : Int)) with
          | none => rfl
          | some x =>
            simp only [ts_enc, Rat.intCast_le_intCast]
            have hkle : cs.length ≤ arr.length := by
              rw [Py.getIdx] at hx
              cases hn : Py.normIdx arr.length (-(cs.length : Int)) with
              | none => rw [hn] at hx; cases hx
              | some k => have := (Py.normIdx_eq_some ..).mp hn; omega
            -- the chunk ends at the last stored minute: `override = len(candles)`
            rw [heq, Int.sub_self, Int.zero_ediv, Int.sub_zero, sub_self, zero_div, show Rat.floor 0 = 0 from rfl,
              Int.sub_zero]
            by_cases hcond : x.ts ≤ c0.ts ∧ last.ts ≤ last.ts
            · rw [if_pos hcond, if_pos hcond, if_neg (by omega), Int.toNat_natCast, List.take_length]
              exact Holds.unpack (hh.setTail cs (by omega) hkle)
            · rw [if_neg hcond, if_neg hcond]

end

/-- non-vacuity: bucket 2 (so the array grows), a new minute, the last minute again, an older minute, a zero timestamp -/
example : (match Jesse.StoreD.batchAddD (DynArray.new 2 6 none)
      ([⟨60000, 1, 2, 3, 0, 5⟩, ⟨120000, 2, 2, 2, 2, 1⟩, ⟨180000, 2, 3, 4, 1, 1⟩, ⟨180000, 2, 5, 6, 1, 2⟩,
        ⟨120000, 9, 9, 9, 9, 9⟩, ⟨0, 7, 7, 7, 7, 7⟩].map Jesse.StoreD.enc) with
    | .ok a => decide (a.abs = ([⟨60000, 1, 2, 3, 0, 5⟩, ⟨120000, 9, 9, 9, 9, 9⟩, ⟨180000, 2, 5, 6, 1, 2⟩] : List Candle).map Jesse.StoreD.enc)
    | _ => false) = true := by decide +kernel

/-- non-vacuity: a fresh chunk of three minutes (bulk append with growth), then the same three minutes again with new
    values (the override that ends at the last stored minute) -/
example : (match Jesse.StoreD.addMultipleD (DynArray.new 2 6 none)
      ([⟨60000, 1, 2, 3, 0, 5⟩, ⟨120000, 2, 2, 2, 2, 1⟩, ⟨180000, 2, 3, 4, 1, 1⟩].map Jesse.StoreD.enc) with
    | .ok a => (match Jesse.StoreD.addMultipleD a ([⟨120000, 7, 7, 7, 7, 7⟩, ⟨180000, 8, 8, 8, 8, 8⟩].map Jesse.StoreD.enc) with
      | .ok b => decide (b.abs = ([⟨60000, 1, 2, 3, 0, 5⟩, ⟨120000, 7, 7, 7, 7, 7⟩, ⟨180000, 8, 8, 8, 8, 8⟩] : List Candle).map Jesse.StoreD.enc)
      | _ => false)
    | _ => false) = true := by decide +kernel

/-- the isolated backtest rejects input whose two leading candles are not one minute apart
    (model of the check in `_isolated_backtest`; it looks at the first two rows only, as the code does) -/
theorem spacing_rejected (cs : List Candle) (c0 c1 : Candle) (rest : List Candle)
    (h : cs = c0 :: c1 :: rest) : spacingCheck cs = .ok () ↔ c1.ts - c0.ts = 60000 := by
  subst h
  rw [spacingCheck]
  split
  · rename_i hne; exact ⟨fun hh => (by cases hh), fun hh => absurd hh hne⟩
  · rename_i heq; exact ⟨fun _ => Decidable.not_not.mp heq, fun _ => rfl⟩

/-- non-vacuity: minutes 0 and 3 provided, 1–2 and 4 missing -/
example : (match fillAbsent [⟨0, 10, 11, 12, 9, 5⟩, ⟨180000, 20, 21, 22, 19, 7⟩] 0 240000 with
    | .ok out => decide (out = [⟨0, 10, 11, 12, 9, 5⟩, flat 60000 11, flat 120000 11, ⟨180000, 20, 21, 22, 19, 7⟩, flat 240000 21])
    | _ => false) = true := by decide +kernel

end C20

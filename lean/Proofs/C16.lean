/-
  Proofs/C16.lean — reported metrics are consistent with the trades and the equity series.
  Theorems over the model of `metrics.trades`, of the daily-return helpers and of the equity sampling
  (Jesse/Metrics.lean, tied to the real code by correspondence on every run), for ALL trade lists /
  balance series / session lengths.

  One clause the code does not satisfy (known finding C16-F5): the sample count of the fast simulator
  with multi-day chunks.  The full statement is in the doc comment of
  `equity_sample_count_fast_partial`, which carries the exact extra hypothesis; `…_multiday` and
  `…_all_routes` state what the code computes instead, and `…_fails` proves the negation on a
  concrete witness.
-/
import Proofs.Lemmas.Metrics

namespace C16
open Jesse Jesse.Metrics Spec.Metrics

theorem total_partition (sb : Rat) (ts : List Trade) :
    (report sb ts).total = (report sb ts).totalWinning + (report sb ts).totalLosing + (breakEven ts).length :=
  count_partition ts

/-- win rate = winners / (winners + losers) whenever there is a decided trade … -/
theorem win_rate (sb : Rat) (ts : List Trade) (_h : totalWinning ts + totalLosing ts ≠ 0) :
    (report sb ts).winRate = (totalWinning ts : Rat) / ((totalWinning ts : Rat) + (totalLosing ts : Rat)) := by
  show winRate ts = _
  unfold winRate totalWinning totalLosing at *
  split
  · rename_i h0; rw [h0]; simp
  · rw [add_comm]
example : ∃ ts, totalWinning ts + totalLosing ts ≠ 0 := ⟨[⟨1, .long, 0, 0⟩], by decide +kernel⟩

/-- … and 0 (the code's guard) when every trade broke even -/
theorem win_rate_guard (sb : Rat) (ts : List Trade) (h : totalWinning ts + totalLosing ts = 0) :
    (report sb ts).winRate = 0 := by
  show winRate ts = 0
  unfold winRate; unfold totalWinning at h
  rw [if_pos (by omega)]
example : ∃ ts : List Trade, ts ≠ [] ∧ totalWinning ts + totalLosing ts = 0 :=
  ⟨[⟨0, .long, 0, 0⟩], by simp, by decide +kernel⟩

theorem long_short_sum (sb : Rat) (ts : List Trade) :
    (report sb ts).longsCount + (report sb ts).shortsCount = (report sb ts).total :=
  (longs_shorts_partition ts).symm

theorem percentages_sum_100 (sb : Rat) (ts : List Trade) (h : ts ≠ []) :
    (report sb ts).longsPercentage + (report sb ts).shortsPercentage = 100
    ∧ (report sb ts).longsPercentage = (longsCount ts : Rat) / (total ts : Rat) * 100
    ∧ (report sb ts).shortsPercentage = (shortsCount ts : Rat) / (total ts : Rat) * 100 := by
  show longsPercentage ts + shortsPercentage ts = 100 ∧ longsPercentage ts = _ ∧ shortsPercentage ts = _
  have ht : (total ts : Rat) = (longsCount ts : Rat) + (shortsCount ts : Rat) := by
    unfold total longsCount shortsCount; exact_mod_cast longs_shorts_partition ts
  have hT : (total ts : Rat) ≠ 0 := Nat.cast_ne_zero.mpr (List.length_pos_iff.mpr h).ne'
  unfold shortsPercentage longsPercentage
  rw [← ht]
  refine ⟨by ring, rfl, ?_⟩
  rw [eq_sub_of_add_eq' ht.symm, sub_div, div_self hT]
  ring
example : ∃ ts : List Trade, ts ≠ [] := ⟨[⟨1, .long, 0, 0⟩], by simp⟩

theorem net_is_sum_is_gross (sb : Rat) (ts : List Trade) :
    (report sb ts).netProfit = Spec.Metrics.sum (pnls ts)
    ∧ (report sb ts).netProfit = (report sb ts).grossProfit + (report sb ts).grossLoss :=
  ⟨sumR_eq_spec _, sum_split ts⟩

theorem net_percentage (sb : Rat) (ts : List Trade) :
    (report sb ts).netProfitPercentage = (report sb ts).netProfit / sb * 100 := rfl

theorem fee_sum (sb : Rat) (ts : List Trade) : (report sb ts).fee = Spec.Metrics.sum (fees ts) :=
  sumR_eq_spec _

/-- largest winning trade = the greatest PnL among the winners (0 without winners);
    largest losing trade = the least PnL among the losers (0 without losers) -/
theorem largest_win_loss (sb : Rat) (ts : List Trade) :
    (totalWinning ts ≠ 0 → IsGreatest (report sb ts).largestWinningTrade (pnls (winners ts)))
    ∧ (totalWinning ts = 0 → (report sb ts).largestWinningTrade = 0)
    ∧ (totalLosing ts ≠ 0 → IsLeast (report sb ts).largestLosingTrade (pnls (losers ts)))
    ∧ (totalLosing ts = 0 → (report sb ts).largestLosingTrade = 0) := by
  show (_ → IsGreatest (largestWinningTrade ts) _) ∧ (_ → largestWinningTrade ts = 0)
    ∧ (_ → IsLeast (largestLosingTrade ts) _) ∧ (_ → largestLosingTrade ts = 0)
  refine ⟨?_, ?_, ?_, ?_⟩
  · intro h
    obtain ⟨v, hv, hg⟩ := colMax_isGreatest _ (pnls_ne_nil h)
    unfold largestWinningTrade; rw [if_neg h, hv]; exact hg
  · intro h; unfold largestWinningTrade; rw [if_pos h]
  · intro h
    obtain ⟨v, hv, hg⟩ := colMin_isLeast _ (pnls_ne_nil h)
    unfold largestLosingTrade; rw [if_neg h, hv]; exact hg
  · intro h; unfold largestLosingTrade; rw [if_pos h]

/-- average win = gross profit / winners, average loss = |gross loss| / losers (NaN without any) -/
theorem average_win_loss (sb : Rat) (ts : List Trade) :
    (report sb ts).averageWin
      = (if totalWinning ts = 0 then none else some ((report sb ts).grossProfit / (totalWinning ts : Rat)))
    ∧ (report sb ts).averageLoss
      = (if totalLosing ts = 0 then none else some (-(report sb ts).grossLoss / (totalLosing ts : Rat))) :=
  ⟨meanR_pnls _, averageLoss_eq ts⟩

/-- expectancy = average win × win rate − average loss × (1 − win rate) (absent averages read as 0),
    and expectancy × (winners + losers) = net profit: it is the mean PnL of the decided trades -/
theorem expectancy_identity (sb : Rat) (ts : List Trade) :
    (report sb ts).expectancy
      = ((report sb ts).averageWin).getD 0 * (report sb ts).winRate
        - ((report sb ts).averageLoss).getD 0 * (1 - (report sb ts).winRate)
    ∧ (report sb ts).expectancy * ((totalWinning ts : Rat) + (totalLosing ts : Rat)) = (report sb ts).netProfit
    ∧ (report sb ts).expectancyPercentage = (report sb ts).expectancy / sb * 100 := by
  refine ⟨rfl, ?_, rfl⟩
  show expectancy ts * _ = netProfit ts
  unfold netProfit
  rw [sum_split ts]
  exact expectancy_mul ts

/-- the three clauses together, as one statement (largest and average win/loss and expectancy follow
    from the PnL sequence) -/
theorem largest_avg_expectancy (sb : Rat) (ts : List Trade) :
    ((totalWinning ts ≠ 0 → IsGreatest (report sb ts).largestWinningTrade (pnls (winners ts)))
      ∧ (totalWinning ts = 0 → (report sb ts).largestWinningTrade = 0)
      ∧ (totalLosing ts ≠ 0 → IsLeast (report sb ts).largestLosingTrade (pnls (losers ts)))
      ∧ (totalLosing ts = 0 → (report sb ts).largestLosingTrade = 0))
    ∧ ((report sb ts).averageWin
        = (if totalWinning ts = 0 then none else some ((report sb ts).grossProfit / (totalWinning ts : Rat)))
      ∧ (report sb ts).averageLoss
        = (if totalLosing ts = 0 then none else some (-(report sb ts).grossLoss / (totalLosing ts : Rat))))
    ∧ (report sb ts).expectancy * ((totalWinning ts : Rat) + (totalLosing ts : Rat)) = (report sb ts).netProfit :=
  ⟨largest_win_loss sb ts, average_win_loss sb ts, (expectancy_identity sb ts).2.1⟩

theorem average_holding (sb : Rat) (ts : List Trade) (h : ts ≠ []) :
    (report sb ts).averageHoldingPeriod = some (Spec.Metrics.sum (holdings ts) / (total ts : Rat)) := by
  show averageHoldingPeriod ts = _
  unfold averageHoldingPeriod total
  have hne : holdings ts ≠ [] := by unfold holdings; simpa using h
  rw [meanR_of_ne_nil _ hne, sumR_eq_spec]
  simp [holdings]
example : ∃ ts : List Trade, ts ≠ [] := ⟨[⟨1, .long, 0, 60⟩], by simp⟩

/-- the vectorised NumPy formula (clip / astype(bool) / cumsum / maximum.accumulate / where) gives
    the longest run of wins, the longest run of losses and the signed current run of the PnL
    sequence, zero-PnL trades breaking runs — for every trade list -/
theorem streaks_are_run_lengths (sb : Rat) (ts : List Trade) :
    (report sb ts).winningStreak = (longestWinRun (pnls ts) : Int)
    ∧ (report sb ts).losingStreak = (longestLoseRun (pnls ts) : Int)
    ∧ (report sb ts).currentStreak = signedCurrentRun (pnls ts) := by
  show winningStreak (pnls ts) = _ ∧ losingStreak (pnls ts) = _ ∧ currentStreak (pnls ts) = _
  unfold winningStreak losingStreak currentStreak longestWinRun longestLoseRun
  rw [currentStreakArr_eq_runs]
  exact ⟨winning_eq _, losing_eq _, current_eq _⟩

/-- for every series of positive daily balances with at least two entries, `max_drawdown` is the
    standard maximum drawdown of the series, the starting balance being its first point
    (`min_t equity_t / max_{s ≤ t} equity_s − 1`, in percent) -/
theorem max_drawdown_is_standard (b0 b1 : Rat) (bs : List Rat)
    (h0 : 0 < b0) (h1 : 0 < b1) (hs : ∀ x ∈ bs, 0 < x) :
    maxDrawdownPct (b0 :: b1 :: bs) = (Spec.Metrics.maxDrawdown (b0 :: b1 :: bs)).map (· * 100) := by
  unfold maxDrawdownPct Jesse.Metrics.maxDrawdown Spec.Metrics.maxDrawdown
  rw [if_neg (by simp), ddRatios_pctChange b0 (b1 :: bs) h0
    (List.forall_mem_cons.mpr ⟨ne_of_gt h1, fun x hx => ne_of_gt (hs x hx)⟩), minSkip_map_some]
example : (0:Rat) < 100 ∧ (0:Rat) < 90 ∧ (∀ x ∈ [(95:Rat)], 0 < x) :=
  ⟨by decide +kernel, by decide +kernel, List.forall_mem_singleton.mpr (by decide +kernel)⟩
/-- regression witness for fix 5df2a81f: balances 100, 90, 95 report −10 % -/
example : decide (maxDrawdownPct [100, 90, 95] = some (-10)) = true := by decide +kernel

/-- the drawdown in the denominator of `calmar_ratio` is the absolute value of the same standard
    drawdown (as a fraction) -/
theorem calmar_drawdown_is_standard (b0 : Rat) (bs : List Rat) (h0 : 0 < b0) (hs : ∀ x ∈ bs, 0 < x) :
    calmarDrawdown (pctChange (b0 :: bs)) = (Spec.Metrics.maxDrawdown (b0 :: bs)).map absR := by
  unfold calmarDrawdown Spec.Metrics.maxDrawdown
  rw [ddRatios_pctChange b0 bs h0 (fun x hx => ne_of_gt (hs x hx)), minSkip_subOne, minSkip_map_some]
example : (0:Rat) < 100 ∧ (∀ x ∈ [(90:Rat)], 0 < x) :=
  ⟨by decide +kernel, List.forall_mem_singleton.mpr (by decide +kernel)⟩

theorem max_drawdown_nonpositive (b0 b1 : Rat) (bs : List Rat)
    (h0 : 0 < b0) (h1 : 0 < b1) (hs : ∀ x ∈ bs, 0 < x) :
    ∃ d, maxDrawdownPct (b0 :: b1 :: bs) = some d ∧ d ≤ 0 := by
  rw [max_drawdown_is_standard b0 b1 bs h0 h1 hs]
  obtain ⟨d, hd, hle⟩ := spec_maxDrawdown_nonpos b0 (b1 :: bs) (ne_of_gt h0)
  rw [hd]
  exact ⟨d * 100, rfl, by linarith⟩
example : (0:Rat) < 100 ∧ (0:Rat) < 90 ∧ (∀ x ∈ [(95:Rat)], 0 < x) :=
  ⟨by decide +kernel, by decide +kernel, List.forall_mem_singleton.mpr (by decide +kernel)⟩

/-- the non-NaN rows of `pct_change` are the simple daily returns; mean and sample variance (Sharpe),
    gains over losses (Omega), the growth factor and the year fraction (annual return, Calmar) are the
    standard ones: `N` returns of `N + 1` balances span `N / 365` years -/
theorem ratios_match_spec (b0 b1 : Rat) (bs : List Rat) (h0 : b0 ≠ 0) (h1 : b1 ≠ 0) (hs : ∀ x ∈ bs, x ≠ 0) :
    validReturns (pctChange (b0 :: b1 :: bs)) = Spec.Metrics.returns (b0 :: b1 :: bs)
    ∧ retMean (pctChange (b0 :: b1 :: bs)) = some (Spec.Metrics.mean (Spec.Metrics.returns (b0 :: b1 :: bs)))
    ∧ (bs ≠ [] → retVar (pctChange (b0 :: b1 :: bs))
          = some (Spec.Metrics.variance (Spec.Metrics.returns (b0 :: b1 :: bs))))
    ∧ Jesse.Metrics.omega (pctChange (b0 :: b1 :: bs)) = Spec.Metrics.omega (Spec.Metrics.returns (b0 :: b1 :: bs))
    ∧ growth (pctChange (b0 :: b1 :: bs)) = (b1 :: bs).getLastD b0 / b0
    ∧ years (pctChange (b0 :: b1 :: bs)) = ((Spec.Metrics.returns (b0 :: b1 :: bs)).length : Rat) / 365 := by
  have hv := validReturns_pctChange (b0 :: b1 :: bs)
  have hlen : (Spec.Metrics.returns (b0 :: b1 :: bs)).length = bs.length + 1 := by
    rw [returns_length]; rfl
  have hne : Spec.Metrics.returns (b0 :: b1 :: bs) ≠ [] :=
    List.ne_nil_of_length_pos (hlen ▸ Nat.succ_pos _)
  refine ⟨hv, ?_, ?_, ?_, ?_, ?_⟩
  · unfold retMean; rw [hv, meanR_of_ne_nil _ hne, sumR_eq_spec]; rfl
  · intro hb
    have : ¬ (Spec.Metrics.returns (b0 :: b1 :: bs)).length < 2 := by
      rw [hlen]; have := List.length_pos_iff.mpr hb; omega
    unfold retVar; rw [hv, if_neg this, sqDevSum_eq, sumR_eq_spec]; rfl
  · unfold Jesse.Metrics.omega Spec.Metrics.omega; rw [hv, negSum_eq, posSum_eq]
  · unfold growth; rw [hv]
    exact prodPlusOne_returns (b1 :: bs) b0 h0 (List.forall_mem_cons.mpr ⟨h1, hs⟩)
  · unfold years; rw [pctChange_length, hlen]; simp
example : (100:Rat) ≠ 0 ∧ (90:Rat) ≠ 0 ∧ (∀ x ∈ [(95:Rat)], x ≠ 0) ∧ [(95:Rat)] ≠ [] :=
  ⟨by decide +kernel, by decide +kernel, List.forall_mem_singleton.mpr (by decide +kernel), List.cons_ne_nil _ _⟩

/-- the square of the downside deviation of Sortino (the model stops before the final `sqrt`) is the
    downside mean square over the `N` daily returns (target 0): `Σ_{r<0} r² / N` — for every balance
    series -/
theorem sortino_downside (bal : List Rat) :
    downsideSq (pctChange bal) = Spec.Metrics.downsideMeanSq (Spec.Metrics.returns bal) := by
  unfold downsideSq Spec.Metrics.downsideMeanSq
  rw [validReturns_pctChange, negSqSum_eq]
/-- regression witness for fix 8600f13b: balances 100, 90, 95 give 1/200 (not 1/300) -/
example : decide (downsideSq (pctChange [100, 90, 95]) = 1 / 200) = true := by decide +kernel

/-- step simulator: one sample per simulated day plus the final one, for every session length -/
theorem equity_sample_count (n : Nat) : stepSampleCount n = expectedSamples n := by
  unfold stepSampleCount expectedSamples
  rw [stepSampleIdx_length]

/-- FULL STATEMENT (not satisfied by the unchanged code): the fast simulator records the same number
    of samples for every chunk size `c > 0`: `fastSampleCount n c = expectedSamples n`.
    The loop variable advances by `c` and a sample needs `i % 1440 == 0`.
    Exact extra hypothesis among the chunk sizes the code can produce: the chunk divides a day
    (every gcd of route timeframes that contains one of 1m … 1D). -/
theorem equity_sample_count_fast_partial (n c : Nat) (hc : c ∣ 1440) :
    fastSampleCount n c = expectedSamples n := by
  unfold fastSampleCount expectedSamples
  rw [fastSampleIdx_length n c (Nat.pos_of_dvd_of_pos hc (by decide)), Nat.lcm_eq_right hc]
example : (5 : Nat) ∣ 1440 := by decide

/-- what the code computes when every route is 3D / 1W / 1M (the chunk is a whole number of days):
    one sample per CHUNK plus the final one -/
theorem equity_sample_count_fast_multiday (n c : Nat) (hc0 : 0 < c) (hc : 1440 ∣ c) :
    fastSampleCount n c = 1 + (n - 1) / c + 1 := by
  unfold fastSampleCount
  rw [fastSampleIdx_length n c hc0, Nat.lcm_eq_left hc]
example : 0 < 4320 ∧ 1440 ∣ 4320 := by decide

/-- every chunk the code can produce (the gcd of the timeframes of a non-empty route list) falls in
    one of the two cases above: the count is the expected one exactly when the chunk divides a day,
    and one per chunk otherwise -/
theorem equity_sample_count_fast_all_routes (n : Nat) (tfs : List Timeframe) (h : tfs ≠ []) :
    fastSampleCount n (chunkOf tfs)
      = if chunkOf tfs ∣ 1440 then expectedSamples n else 1 + (n - 1) / chunkOf tfs + 1 := by
  obtain ⟨hpos, hd⟩ := chunkOf_day tfs h
  split
  · exact equity_sample_count_fast_partial n _ ‹_›
  · exact equity_sample_count_fast_multiday n _ hpos (hd.resolve_left ‹_›)
example : ([Timeframe.m5, Timeframe.h1] : List Timeframe) ≠ [] := by simp

/-- the negation of the full statement on a witness: a six-day session in 3D chunks records 3 samples,
    the step simulator 7 -/
theorem equity_sample_count_fast_fails :
    decide (fastSampleCount 8640 4320 = 3 ∧ expectedSamples 8640 = 7 ∧ stepSampleCount 8640 = 7) = true :=
  decide_eq_true ⟨by decide +kernel, by decide +kernel, equity_sample_count 8640⟩

/-- futures: a sample is the wallet balance plus the unrealised PnL of every open position, for any
    number and order of routes -/
theorem equity_sample_value_futures (wallet : Rat) (ps : List FutPos) :
    futuresSample wallet ps = futuresEquity wallet ((ps.filter (·.isOpen)).map (·.pnl)) :=
  futuresSample_eq ps wallet

/-- spot: a sample is free quote + quote reserved by the resting buy orders + market value of the
    held base over ALL routes, whatever their number -/
theorem equity_sample_value_spot (free : Rat) (routes : List SpotRoute) (h : routes ≠ []) :
    spotSample free routes
      = spotEquity free (routes.map (·.reservedQuote)) (routes.map (·.positionValue)) := by
  cases routes with
  | nil => exact absurd rfl h
  | cons r rest =>
    show (reservedTotal (r :: rest) + positionsValue (r :: rest)) * 1 + free = _
    unfold spotEquity
    rw [positionsValue_eq, reservedTotal_eq]
    ring
example : ([⟨281/2, 0⟩, ⟨1605/4, 0⟩] : List SpotRoute) ≠ [] := by simp
/-- regression witness for fix 34cd8255: two routes with resting buys of 140.5 and 401.25 quote
    and 9458.25 free quote sample 10000 -/
example : decide (spotSample (37833/4) [⟨281/2, 0⟩, ⟨1605/4, 0⟩] = 10000) = true := by decide +kernel

/-- … and whatever their order: a sample is invariant under every permutation of the routes
    (spot) / of the positions (futures) -/
theorem equity_sample_order_independent (balance : Rat) :
    (∀ r₁ r₂ : List SpotRoute, r₁.Perm r₂ → spotSample balance r₁ = spotSample balance r₂)
    ∧ (∀ p₁ p₂ : List FutPos, p₁.Perm p₂ → futuresSample balance p₁ = futuresSample balance p₂) := by
  constructor
  · intro r₁ r₂ hp
    cases r₁ with
    | nil => rw [← hp.nil_eq]
    | cons a as =>
      have hne : r₂ ≠ [] := fun h0 => List.cons_ne_nil a as (h0 ▸ hp).eq_nil
      rw [equity_sample_value_spot balance (a :: as) (List.cons_ne_nil _ _), equity_sample_value_spot balance r₂ hne]
      unfold spotEquity
      rw [sum_perm (hp.map (·.reservedQuote)), sum_perm (hp.map (·.positionValue))]
  · intro p₁ p₂ hp
    rw [futuresSample_eq, futuresSample_eq]
    rw [sum_perm ((hp.filter (·.isOpen)).map (·.pnl))]
example : ([⟨1, 2⟩, ⟨3, 4⟩] : List SpotRoute).Perm [⟨3, 4⟩, ⟨1, 2⟩] := List.Perm.swap _ _ _

/-- the clause "the series starts at the starting balance and ends at the final portfolio value", as
    far as the value of a sample goes: with every position closed and nothing reserved a sample is
    exactly the wallet / free quote balance.  That the first and the last sample are taken in such a
    state (a fresh account; an account after `_terminate`) is not part of the statement. -/
theorem equity_endpoints (balance : Rat) :
    (∀ ps : List FutPos, (∀ p ∈ ps, p.isOpen = false) → futuresSample balance ps = balance)
    ∧ (∀ (r : SpotRoute) (rest : List SpotRoute),
        (∀ x ∈ r :: rest, x.reservedQuote = 0 ∧ x.positionValue = 0) → spotSample balance (r :: rest) = balance) := by
  constructor
  · intro ps h
    rw [futuresSample_eq]
    rw [List.filter_eq_nil_iff.mpr (fun p hp => by simp [h p hp])]
    exact add_zero _
  · intro r rest h
    rw [equity_sample_value_spot balance (r :: rest) (List.cons_ne_nil _ _)]
    unfold spotEquity
    rw [sum_map_eq_zero (·.reservedQuote) _ (fun x hx => (h x hx).1),
      sum_map_eq_zero (·.positionValue) _ (fun x hx => (h x hx).2)]
    ring

end C16

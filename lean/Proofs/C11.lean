/-
  Proofs/C11.lean — research.backtest is a pure, repeatable function of its arguments: the effective
  parameters of a session depend on the call's own arguments only, whatever ran before in the process
  (model of the process-wide state in Jesse/Session.lean, tied to the real code by correspondence).
  It holds because `set_config` clears the memo and writes the call's own entry before the session
  reads anything (`lookup_setConf` is the one fact about the configuration table that is needed),
  and `Broker.__init__` creates a missing driver.
-/
import Jesse.Session

namespace C11
open Jesse Jesse.Acc Jesse.Sess

def wanted (a : Args) : Eff :=
  { kind := a.cfg.kind, leverage := a.cfg.leverage, isolated := a.cfg.isolated, fee := a.cfg.fee,
    balance := a.cfg.balance, warmup := a.warmup, driver := true }

theorem lookup_setConf (c : List (Nat × ExCfg)) (k : Nat) (v : ExCfg) : (setConf c k v).lookup k = some v := by
  rw [setConf, List.lookup_cons_self]

/-- ONE CALL, ANY STATE: whatever the process-wide state is, a call runs with exactly the parameters of
    its own arguments, and its orders reach an exchange driver. -/
theorem call_effective (g : G) (a : Args) : (call g a).2 = wanted a := by
  unfold call wanted
  simp only [lookup_setConf, Option.getD_some, List.lookup_nil]
  by_cases h : a.exchange ∈ g.drivers <;> simp [h]

/-- HISTORY INDEPENDENCE: after ANY sequence of earlier calls — other exchange names, spot instead of
    futures, other leverage, fee, balance, warm-up size, calls that aborted part-way — the probe call runs
    with the same effective parameters as in a fresh process. -/
theorem history_independent (first : List Nat) (h : List Args) (a : Args) :
    (call (runAll (g0 first) h) a).2 = (call (g0 first) a).2 := by
  rw [call_effective, call_effective]

/-- regression witness for fixes 9432d283 and 029455a1: leverage 2 then leverage 10 on the same
    exchange name, then spot, then a new exchange name — each session gets what it asked for -/
example :
    let a1 : Args := ⟨0, ⟨.futures, 2, false, 1/1000, 10000⟩, 0, false⟩
    let a2 : Args := ⟨0, ⟨.futures, 10, false, 2/1000, 5000⟩, 0, true⟩
    let a3 : Args := ⟨0, ⟨.spot, 1, false, 1/1000, 10000⟩, 0, false⟩
    let a4 : Args := ⟨7, ⟨.futures, 3, true, 0, 100⟩, 5, false⟩
    decide ((call (runAll (g0 [0]) [a1, a2, a3]) a4).2 = wanted a4 ∧ (call (runAll (g0 [0]) [a1]) a2).2.leverage = 10) = true := by
  decide +kernel

end C11

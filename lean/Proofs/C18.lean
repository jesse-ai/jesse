/-
  Proofs/C18.lean — the dynamic array behaves like a growing list of rows.
  Every public method of the model of `DynamicNumpyArray` (Jesse/DynArray.lean, tied to the real class by the
  correspondence check harness/props/c18.py) refines, on the logical content `abs` and under the invariant `Inv`, the
  operation on a plain list with Python's semantics (Jesse/Py.lean, Spec/ListArray.lean), keeps `Inv`, and raises
  exactly where the list does (`refines_<method>`). Left out: slices with a step, `a[s:e] = rows` with another number
  of rows than the slice holds (NumPy would broadcast or raise), `get_past_item` of a negative number. The mutating
  methods other than slice assignment are then a type `Op`, and the claim is lifted to every sequence of them
  (`refines_history`).
-/
import Proofs.Lemmas.DynArray

namespace C18
open Jesse Jesse.DynArray Spec

theorem inv_new (b w : Nat) (d : Option Nat) (hb : 0 < b) :
    Inv (DynArray.new b w d) ∧ (DynArray.new b w d).abs = [] :=
  ⟨⟨Int.le_refl _, Nat.zero_le _, hb, Nat.le_of_eq (zeros_length ..).symm⟩, rfl⟩

theorem refines_len (a : DynArray) (h : Inv a) : a.len = (a.abs.length : Int) := by
  rw [abs_length a h, n_cast a h]; rfl

theorem refines_getItem (a : DynArray) (h : Inv a) (i : Int) :
    a.getItem i = match Py.getIdx a.abs i with
      | some r => .ok r
      | none => .error .IndexError := by
  have hc := n_cast a h
  rw [Py.getIdx, abs_length a h]
  cases hk : Py.normIdx a.n i with
  | none => exact if_pos (Or.inr (resolve_none a h i hk))
  | some k =>
    obtain ⟨hr, hlt⟩ := resolve_some a h i k hk
    simp only [DynArray.getItem, hr]
    rw [if_neg (by omega), getIdx_array a h k hlt]
    rfl

theorem refines_setItem (a : DynArray) (h : Inv a) (i : Int) (r : Row) :
    match Py.normIdx a.abs.length i with
    | some k => ∃ a', a.setItem i r = .ok a' ∧ a'.abs = a.abs.set k r ∧ Inv a'
    | none => a.setItem i r = .error .IndexError := by
  have hc := n_cast a h
  rw [abs_length a h]
  cases hk : Py.normIdx a.n i with
  | none => exact if_pos (resolve_none a h i hk)
  | some k =>
    obtain ⟨hr, hlt⟩ := resolve_some a h i k hk
    simp only [DynArray.setItem, hr]
    rw [if_neg (by omega), normIdx_array a h k hlt]
    exact ⟨_, rfl, List.take_set,
      ⟨h.idx, (List.length_set ..).symm ▸ h.fits, h.bpos, (List.length_set ..).symm ▸ h.cap⟩⟩

/-- `a.get_last_item()`: the list's last row, IndexError when it is empty -/
theorem refines_getLast (a : DynArray) (h : Inv a) :
    a.getLast = match a.abs.getLast? with
      | some r => .ok r
      | none => .error .IndexError := by
  have hc := n_cast a h
  rw [List.getLast?_eq_getElem?, abs_length a h, DynArray.getLast]
  by_cases h0 : a.index = -1
  · rw [if_pos h0, List.getElem?_eq_none (by rw [abs_length a h]; omega)]
  · rw [if_neg h0, show a.index = ((a.n - 1 : Nat) : Int) by omega, getIdx_array a h _ (by omega)]
    rfl

theorem refines_flush (a : DynArray) (h : Inv a) : a.flush.abs = [] ∧ Inv a.flush :=
  (inv_new a.bucket a.width a.dropAt h.bpos).symm

theorem refines_delete (a : DynArray) (h : Inv a) (i : Int) :
    match Py.normIdx a.abs.length i with
    | some k => ∃ a', a.delete i = .ok a' ∧ a'.abs = a.abs.eraseIdx k ∧ Inv a'
    | none => a.delete i = .error .IndexError := by
  have hc := n_cast a h
  have hf : a.n ≤ a.array.length := h.fits
  rw [abs_length a h]
  cases hk : Py.normIdx a.n i with
  | none => exact if_pos (resolve_none a h i hk)
  | some k =>
    obtain ⟨hr, hlt⟩ := resolve_some a h i k hk
    simp only [DynArray.delete, hr]
    rw [if_neg (by omega), Py.npDelete, normIdx_array a h k hlt]
    have hlen : (a.array.eraseIdx k).length = a.array.length - 1 := List.length_eraseIdx_of_lt (by omega)
    obtain ⟨h1, h2, h3⟩ := repad_spec (a.array.eraseIdx k) (zeros a.bucket a.width) a.bucket (a.n - 1) (by omega)
      (zeros_length ..)
    obtain ⟨habs, hinv⟩ := inv_update a h (a.index - 1) (a.n - 1) _ (by omega) h2 h3
    exact ⟨_, rfl, habs.trans (h1.trans (take_eraseIdx_lt a.array a.n k hlt hf)), hinv⟩

/-- `a[s:e]` with positive, negative and omitted bounds: exactly the list's slice -/
theorem refines_getSlice (a : DynArray) (h : Inv a) (s e : Option Int) :
    a.getSlice s e = Py.slice a.abs s e := by
  obtain ⟨p, hp, hA⟩ := Py.startIdx_wrap a.n s
  have hB := Py.stopIdx_le a.n e
  rw [getSlice_eq, ← n_cast a h, hp, Py.stopIdx_wrap, ← Py.slice_take _ a.n _ _ hB]
  show Py.slice a.abs _ _ = _
  rw [Py.slice_natCast, Py.slice, abs_length a h, hA, Nat.min_eq_left hB]

/-- `a[s:e] = rows` with as many rows as the list slice `a[s:e]` holds: the list's slice assignment; never raises. -/
theorem refines_setSlice (a : DynArray) (h : Inv a) (s e : Option Int) (items : List Row)
    (hlen : items.length = (Py.slice a.abs s e).length) :
    ∃ a', a.setSlice s e items = .ok a' ∧ Py.setSlice a.abs s e items = some a'.abs ∧ Inv a' := by
  obtain ⟨p, hp, hA⟩ := Py.startIdx_wrap a.n s
  have hn : a.n ≤ a.array.length := h.fits
  have hl := abs_length a h
  have hk : Py.stopIdx a.n e - min p a.n = items.length := by rw [hlen, Py.length_slice, hl, hA]
  obtain ⟨t, ht, hspan, hfitL, hcase⟩ := setStop_spec _ _ _ _ e hn hk
  have hL := Py.length_splice a.array items (min p a.array.length) hfitL
  refine ⟨{ a with array := Py.splice a.array (min p a.array.length) items }, ?_, ?_,
    ⟨h.idx, Nat.le_trans h.fits (Nat.le_of_eq hL.symm), h.bpos, Nat.le_trans h.cap (Nat.le_of_eq hL.symm)⟩⟩
  · rw [setSlice_eq, ← n_cast a h, hp, ht, npAssign_natCast _ _ _ _ hspan]
  · rw [Py.setSlice_eq _ _ _ _ (by rw [hl, hA]; exact hk), hl, hA]
    show some (Py.splice (a.array.take a.n) _ _) = some (List.take a.n _)
    rcases hcase with h0 | ⟨hpp, hfit⟩
    · obtain rfl := List.eq_nil_of_length_eq_zero h0
      rw [Py.splice_nil, Py.splice_nil]
    · rw [hpp, Py.take_splice _ _ _ _ hfit hn]

/-- `a.append_multiple(rows)`: the list's extend (with the drop-oldest rule when `drop_at` is set); does not raise.
    `hnz`: with `drop_at` set, zero rows onto an empty array meet the drop condition at index -1 (`0 % drop_at = 0`) and
    the index falls below -1, while the list stays empty. The write precedes the drop step: fix 6be5649a, witness below. -/
theorem refines_appendMultiple (a : DynArray) (h : Inv a) (items : List Row)
    (hd : ∀ d, a.dropAt = some d → 0 < d)
    (hnz : a.dropAt ≠ none → 0 < a.n + items.length) :
    ∃ a', a.appendMultiple items = .ok a' ∧ a'.abs = Spec.listAppendAll a.dropAt a.abs items ∧ Inv a' := by
  have hc := n_cast a h
  obtain ⟨hfit, hcap, htake⟩ := grow_spec a h items.length (max items.length a.bucket) (Nat.le_max_left ..)
  have e1 : a.index + (items.length : Int) - (items.length : Int) + 1 = ((a.n : Nat) : Int) := by
    rw [Int.add_sub_cancel, hc]
  have e2 : a.index + (items.length : Int) + 1 = ((a.n + items.length : Nat) : Int) := by
    rw [Int.natCast_add, hc, Int.add_right_comm]
  have e3 : a.index + (items.length : Int) = ((a.n + items.length : Nat) : Int) - 1 := by
    rw [← e2, Int.add_sub_cancel]
  unfold DynArray.appendMultiple
  generalize a.grow (a.index + items.length) (max items.length a.bucket) = G at *
  rw [e1, e2, e3, npAssign_fit G _ items hfit]
  have hW := Py.length_splice G items a.n hfit
  obtain ⟨m', arr', hstep, hm', hlen', habs'⟩ := dropStep_spec a hd (a.n + items.length) _
    (Nat.le_trans hfit (Nat.le_of_eq hW.symm)) hnz a.abs items
    ((Py.take_splice_end G items a.n (by omega)).trans (congrArg (· ++ items) htake))
  obtain ⟨habs, hinv⟩ := inv_update a h _ m' arr' rfl (by omega) (by have := h.cap; omega)
  exact ⟨_, by simp only [hstep], habs.trans habs', hinv⟩

/-- `a.append(row)`: the list's append (with the drop-oldest rule when a positive `drop_at` is set); never raises. -/
theorem refines_append (a : DynArray) (h : Inv a) (r : Row)
    (hd : ∀ d, a.dropAt = some d → 0 < d) :
    ∃ a', a.append r = .ok a' ∧ a'.abs = Spec.listAppend a.dropAt a.abs r ∧ Inv a' := by
  rw [append_eq_appendMultiple a h]
  exact refines_appendMultiple a h [r] hd (fun _ => Nat.succ_pos _)

/-- regression witness for fix 6be5649a: bucket 2, `drop_at = 4`, a bulk append of four rows onto a
    fresh array leaves the two most recent rows -/
example : (match (DynArray.new 2 2 (some 4)).appendMultiple [[1, 1], [2, 2], [3, 3], [4, 4]] with
     | .ok a => decide (a.abs = [[3, 3], [4, 4]]) | _ => false) = true := by decide +kernel

/-- `a.get_past_item(k)` for k ≥ 0: the k-th row from the end -/
theorem refines_getPast (a : DynArray) (h : Inv a) (k : Nat) :
    a.getPast k = (if k < a.abs.length then
        (match a.abs[a.abs.length - 1 - k]? with | some r => .ok r | none => .error .IndexError)
      else .error .IndexError) := by
  have hc := n_cast a h
  rw [abs_length a h, DynArray.getPast]
  by_cases hk : k < a.n
  · rw [if_neg (by omega), if_neg (by omega), if_pos hk,
      show a.index - (k : Int) = ((a.n - 1 - k : Nat) : Int) by omega, getIdx_array a h _ (by omega)]
    rfl
  · rw [if_neg hk]
    by_cases h0 : a.index = -1
    · rw [if_pos h0]
    · rw [if_neg h0, if_pos (by omega)]

/-- the mutating operations of the array other than slice assignment (that one and the reads are covered by the
    per-state theorems above) -/
inductive Op where
  | append (r : Row)
  | appendMultiple (rs : List Row)
  | setItem (i : Int) (r : Row)
  | delete (i : Int)
  | flush

def stepModel (a : DynArray) : Op → Except Err DynArray
  | .append r => a.append r
  | .appendMultiple rs => a.appendMultiple rs
  | .setItem i r => a.setItem i r
  | .delete i => a.delete i
  | .flush => .ok a.flush

/-- `none` where Python's list raises -/
def stepList (d : Option Nat) (l : List Row) : Op → Option (List Row)
  | .append r => some (Spec.listAppend d l r)
  | .appendMultiple rs => some (Spec.listAppendAll d l rs)
  | .setItem i r => (Py.normIdx l.length i).map (fun k => l.set k r)
  | .delete i => (Py.normIdx l.length i).map (fun k => l.eraseIdx k)
  | .flush => some []

/-- with a drop limit, a bulk append of zero rows is excluded (see `refines_appendMultiple`) -/
def Op.NonDegenerate (d : Option Nat) : Op → Prop
  | .appendMultiple rs => d ≠ none → rs ≠ []
  | _ => True

def runModel (a : DynArray) : List Op → Except Err DynArray
  | [] => .ok a
  | op :: rest => match stepModel a op with
    | .ok a' => runModel a' rest
    | .error e => .error e

def runList (d : Option Nat) (l : List Row) : List Op → Option (List Row)
  | [] => some l
  | op :: rest => match stepList d l op with
    | some l' => runList d l' rest
    | none => none

/-- a method that takes an integer index, from its method theorem to the shape of `refines_step` -/
theorem step_of_index {a : DynArray} {X : Except Err DynArray} {o : Option Nat} {f : Nat → List Row}
    (hda : ∀ a', X = .ok a' → a'.dropAt = a.dropAt)
    (H : match o with
      | some k => ∃ a', X = .ok a' ∧ a'.abs = f k ∧ Inv a'
      | none => X = .error .IndexError) :
    match o.map f with
    | some l' => ∃ a', X = .ok a' ∧ a'.abs = l' ∧ Inv a' ∧ a'.dropAt = a.dropAt
    | none => ∃ e, X = .error e := by
  cases o with
  | none => exact ⟨_, H⟩
  | some k =>
    obtain ⟨a', h1, h2, h3⟩ := H
    exact ⟨a', h1, h2, h3, hda a' h1⟩

theorem refines_step (a : DynArray) (h : Inv a) (hd : ∀ d, a.dropAt = some d → 0 < d) (op : Op)
    (hop : op.NonDegenerate a.dropAt) :
    match stepList a.dropAt a.abs op with
    | some l' => ∃ a', stepModel a op = .ok a' ∧ a'.abs = l' ∧ Inv a' ∧ a'.dropAt = a.dropAt
    | none => ∃ e, stepModel a op = .error e := by
  cases op with
  | append r =>
    obtain ⟨a', h1, h2, h3⟩ := refines_append a h r hd
    exact ⟨a', h1, h2, h3, append_dropAt a a' r h1⟩
  | appendMultiple rs =>
    obtain ⟨a', h1, h2, h3⟩ := refines_appendMultiple a h rs hd
      (fun hh => Nat.lt_of_lt_of_le (List.length_pos_iff.mpr (hop hh)) (Nat.le_add_left ..))
    exact ⟨a', h1, h2, h3, appendMultiple_dropAt a a' rs h1⟩
  | setItem i r => exact step_of_index (fun a' => setItem_dropAt a a' i r) (refines_setItem a h i r)
  | delete i => exact step_of_index (fun a' => delete_dropAt a a' i) (refines_delete a h i)
  | flush => exact ⟨a.flush, rfl, (refines_flush a h).1, (refines_flush a h).2, rfl⟩

/-- the history theorem in its total form: where the list raises, so does the array -/
theorem refines_run (a : DynArray) (h : Inv a) (hd : ∀ d, a.dropAt = some d → 0 < d)
    (ops : List Op) (hops : ∀ op ∈ ops, op.NonDegenerate a.dropAt) :
    match runList a.dropAt a.abs ops with
    | some l => ∃ a', runModel a ops = .ok a' ∧ a'.abs = l ∧ Inv a'
    | none => ∃ e, runModel a ops = .error e := by
  induction ops generalizing a with
  | nil => exact ⟨a, rfl, rfl, h⟩
  | cons op rest ih =>
    have hs := refines_step a h hd op (hops op List.mem_cons_self)
    rw [runList, runModel]
    cases hl : stepList a.dropAt a.abs op with
    | none =>
      rw [hl] at hs
      obtain ⟨e, he⟩ := hs
      exact ⟨e, by rw [he]⟩
    | some l' =>
      rw [hl] at hs
      obtain ⟨a', h1, rfl, h3, h4⟩ := hs
      rw [h1, ← h4]
      exact ih a' h3 (h4 ▸ hd) (fun o ho => h4 ▸ hops o (List.mem_cons_of_mem _ ho))

/-- EVERY HISTORY, with and without the drop-oldest limit (a positive one; with a limit, no bulk append of zero rows:
    `Op.NonDegenerate`): from every state that meets `Inv`, for every sequence of `Op`s (the mutating methods other than
    slice assignment), if the sequence is valid on a plain list (truncated by the drop rule) then the array executes it
    without raising, ends in `Inv`, and its logical content is the list's — so by the per-state theorems every read
    (`len`, `a[i]`, `a[s:e]`, last, past) returns there what the list returns. -/
theorem refines_history (a : DynArray) (h : Inv a) (hd : ∀ d, a.dropAt = some d → 0 < d)
    (ops : List Op) (hops : ∀ op ∈ ops, op.NonDegenerate a.dropAt)
    (l : List Row) (hrun : runList a.dropAt a.abs ops = some l) :
    ∃ a', runModel a ops = .ok a' ∧ a'.abs = l ∧ Inv a' := by
  have := refines_run a h hd ops hops
  rwa [hrun] at this

/-- … in particular from a fresh `DynamicNumpyArray((b, w), drop_at=d)`, for every positive bucket size, every row
    width and every drop limit (none or a positive one). -/
theorem refines_history_from_new (b w : Nat) (d : Option Nat) (hb : 0 < b) (hdp : ∀ x, d = some x → 0 < x)
    (ops : List Op) (hops : ∀ op ∈ ops, op.NonDegenerate d) (l : List Row)
    (hrun : runList d [] ops = some l) :
    ∃ a', runModel (DynArray.new b w d) ops = .ok a' ∧ a'.abs = l ∧ Inv a' := by
  obtain ⟨hi, ha⟩ := inv_new b w d hb
  exact refines_history _ hi hdp ops hops l (by rw [ha]; exact hrun)

/-- non-vacuity, and regression witness for fix d47bff18: bucket 3, append×5, delete×2, append×2 is
    valid on the list and runs to the list's result -/
example : (match runModel (DynArray.new 3 1 none)
      [.append [1], .append [2], .append [3], .append [4], .append [5], .delete 0, .delete 0,
       .append [6], .append [7]] with
    | .ok a => decide (a.abs = [[3], [4], [5], [6], [7]]) | _ => false) = true := by decide +kernel

end C18

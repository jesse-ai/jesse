/-
  Proofs/C07.lean — every timeframe is the exact aggregation of the one-minute candles.
  `generate_candle_from_one_minutes` and `_get_fixed_jumped_candle` are GENERATED from the source;
  the store functions are the hand model of Jesse/Store.lean (tied by correspondence).
-/
import Proofs.C07.Run

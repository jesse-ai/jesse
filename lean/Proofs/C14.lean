/-
  Proofs/C14.lean — sequential and single-value indicator results agree: for EVERY length-preserving kernel
  under the standard wrapper (`slice_candles` + `res if sequential else res[-1]`); the modelled kernels are
  length preserving; and every public indicator's wrapper, as re-read from the source on every run
  (Jesse/Gen/IndWrappers.lean), has the standard shape or is in the documented exemption list.
-/
import Proofs.Lemmas.Wrapper
import Proofs.Lemmas.Kernels
import Jesse.Ind.MA
import Jesse.Ind.Simple
import Jesse.Ind.WrapperExempt
import Jesse.Ind.Osc
import Jesse.Ind.Dir
import Jesse.Ind.Off

namespace C14
open Jesse Jesse.Ind

/-- C14 for the standard wrapper around any length-preserving kernel `K`:
    (1) the sequential result has one entry per candle;
    (2) its last entry is the non-sequential result on the same input, for inputs of at most 240 candles;
    (3) the non-sequential result on any input is the last entry of the sequential result computed
        on the trailing 240 candles. -/
theorem standard_wrapper {α β} (K : List α → List β) (hK : LenPres K) (cs : List α) :
    (wrap K true cs).len = cs.length
    ∧ (cs.length ≤ warmup → (wrap K true cs).last = (wrap K false cs).last)
    ∧ (wrap K false cs).last = (wrap K true (lastN warmup cs)).last := by
  have h1 (l : List α) : (wrap K true l).last = (K l).getLast? := rfl
  have h3 : (wrap K false cs).last = (K (lastN warmup cs)).getLast? :=
    congrArg (fun l => (K l).getLast?) (sliceCandles_false cs)
  exact ⟨hK cs, fun h => by rw [h1, h3, lastN_of_le _ _ h], by rw [h1, h3]⟩

/-- non-vacuity: clause (2) needs `≤ 240`: for a running sum the last sequential entry on 241 rows
    differs from the single value -/
example : (wrap (scanState (fun (s : Nat) (x : Nat) => (s + x, s + x)) 0) true (List.replicate 241 1)).last
    ≠ (wrap (scanState (fun (s : Nat) (x : Nat) => (s + x, s + x)) 0) false (List.replicate 241 1)).last := by
  decide +kernel

theorem len_sma (p : Nat) : LenPres (sma p) := (online_sma p).len
theorem len_ema (p : Nat) : LenPres (ema p) := (online_scanState _ _).len
theorem len_wma (p : Nat) : LenPres (wma p) := (online_trailing _ _).len
theorem len_smma (p : Nat) : LenPres (smma p) := (online_pmap _).len
theorem len_wilders (p : Nat) : LenPres (wilders p) := (online_scanState _ _).len
theorem len_rma (p : Nat) : LenPres (rma p) := fun xs => by simp [rma, rmaR]
theorem len_dema (p : Nat) : LenPres (dema p) := (online_dema p).len
theorem len_tema (p : Nat) : LenPres (tema p) := (online_tema p).len
theorem len_trima (p : Nat) : LenPres (trima p) := (online_trailing _ _).len
theorem len_roc (p : Nat) : LenPres (roc p) := (online_pmap _).len
theorem len_mom (p : Nat) : LenPres (mom p) := (online_pmap _).len
theorem len_obv : LenPres obv := (online_scanState _ _).len
theorem len_avgprice : LenPres avgprice := (online_map _).len
theorem len_medprice : LenPres medprice := (online_map _).len
theorem len_typprice : LenPres typprice := (online_map _).len
theorem len_wclprice : LenPres wclprice := (online_map _).len
theorem len_donchian_upper (p : Nat) : LenPres (donchianUpper p) := (online_trailing _ _).len
theorem len_donchian_middle (p : Nat) : LenPres (donchianMiddle p) := (online_trailing _ _).len
theorem len_donchian_lower (p : Nat) : LenPres (donchianLower p) := (online_trailing _ _).len
theorem len_willr (p : Nat) : LenPres (willr p) := (online_trailing _ _).len
theorem len_trange : LenPres trange := online_trange.len
theorem len_atr (p : Nat) : LenPres (atr p) := (online_atr p).len

theorem len_rsi (p : Nat) : LenPres (rsi p) := (online_scanState _ _).len
theorem len_macd_line (f s : Nat) : LenPres (macdLine f s) := (online_macdLine f s).len
theorem len_macd_signal (f s g : Nat) : LenPres (macdSignal f s g) := (online_macdSignal f s g).len
theorem len_macd_hist (f s g : Nat) : LenPres (macdHist f s g) := (online_macdHist f s g).len
theorem len_stoch_k (fk sk : Nat) : LenPres (stochK fk sk) := (online_stochK fk sk).len
theorem len_stoch_d (fk sk sd : Nat) : LenPres (stochD fk sk sd) := (online_stochD fk sk sd).len
theorem len_stochf_k (p : Nat) : LenPres (stochfK p) := (online_pmap _).len
theorem len_stochf_d (p fd : Nat) : LenPres (stochfD p fd) := (online_stochfD p fd).len
theorem len_cci (p : Nat) : LenPres (cci p) := (online_cci p).len
theorem len_mfi (p : Nat) : LenPres (mfi p) := (online_mfi p).len
theorem len_stddev (sqrt : Rat → Rat) (p : Nat) (nb : Rat) : LenPres (stddev sqrt p nb) := (online_trailing _ _).len
theorem len_var (p : Nat) (nb : Rat) : LenPres (var p nb) := (online_trailing _ _).len
theorem len_bollinger (sqrt : Rat → Rat) (p : Nat) (du dd : Rat) :
    LenPres (bbUpper sqrt p du) ∧ LenPres (bbMiddle p) ∧ LenPres (bbLower sqrt p dd) :=
  ⟨(online_bb oadd sqrt p du).len, (online_sma p).len, (online_bb osub sqrt p dd).len⟩
theorem len_keltner (p : Nat) (m : Rat) (s : Source) :
    LenPres (keltnerUpper p m s) ∧ LenPres (keltnerMiddle p s) ∧ LenPres (keltnerLower p m s) :=
  ⟨(online_keltner oadd p m s).len, (online_keltnerMiddle p s).len, (online_keltner osub p m s).len⟩
theorem len_dm (p : Nat) : LenPres (dmPlus p) ∧ LenPres (dmMinus p) :=
  ⟨(online_scan_proj _ _ _).len, (online_scan_proj _ _ _).len⟩
theorem len_di (p : Nat) : LenPres (diPlus p) ∧ LenPres (diMinus p) :=
  ⟨(online_scan_proj _ _ _).len, (online_scan_proj _ _ _).len⟩
theorem len_dx (dl sm : Nat) : LenPres (dxPlusDI dl) ∧ LenPres (dxMinusDI dl) ∧ LenPres (dxAdx dl sm) :=
  ⟨fun cs => by simp [dxPlusDI, dxDI, rmaR, dmtr],
   fun cs => by simp [dxMinusDI, dxDI, rmaR, dmtr],
   fun cs => by simp [dxAdx, dxIndex, dxPlusDI, dxMinusDI, dxDI, rmaR, dmtr]⟩
theorem len_adx (p : Nat) : LenPres (adx p) := (online_scanState _ _).len
theorem len_emd (p : Nat) (fr a b : Rat) :
    LenPres (emdUpper fr a b) ∧ LenPres (emdMiddle p a b) ∧ LenPres (emdLower fr a b) :=
  ⟨fun cs => by simp [emdUpper, emdPeak, emdBp, hl2, sma],
   fun cs => by simp [emdMiddle, emdBp, hl2, sma],
   fun cs => by simp [emdLower, emdPeak, emdBp, hl2, sma]⟩
theorem len_lrsi (al : Rat) : LenPres (lrsi al) := fun cs => by simp [lrsi, lrsiR, hl2]
theorem len_mab (sqrt : Rat → Rat) (fp sp : Nat) (du dd : Rat) :
    LenPres (mabUpper sqrt fp sp du) ∧ LenPres (mabMiddle fp) ∧ LenPres (mabLower sqrt fp sp dd) :=
  ⟨fun xs => by simp [mabUpper, sma], (online_sma fp).len,
   fun xs => by simp [mabLower, sma]⟩
theorem len_minmax (o : Nat) :
    LenPres (minmaxIsMin o) ∧ LenPres (minmaxIsMax o) ∧ LenPres (minmaxLastMin o) ∧ LenPres (minmaxLastMax o) :=
  ⟨fun cs => by simp [minmaxIsMin, extrema], fun cs => by simp [minmaxIsMax, extrema],
   fun cs => by simp [minmaxLastMin, minmaxIsMin, ffill, extrema],
   fun cs => by simp [minmaxLastMax, minmaxIsMax, ffill, extrema]⟩

theorem length_diffN (n : Nat) (ys : List Rat) : (diffN n ys).length = ys.length - n := by
  induction n generalizing ys with
  | zero => rfl
  | succ n ih =>
    rw [diffN, ih, diff1, List.length_zipWith, List.length_drop, Nat.min_eq_right (Nat.sub_le _ _), Nat.sub_sub,
      Nat.add_comm]

/-- `er` is length preserving for inputs of at least `period` rows (`same_length` pads the front).  The real
    function raises for shorter inputs, and already at exactly `period` rows, where the model yields NaNs. -/
theorem len_er (p : Nat) (xs : List Rat) (h : p ≤ xs.length) : (er p xs).length = xs.length := by
  unfold er padFront
  simp only [List.length_append, List.length_replicate, List.length_map, length_diffN]
  omega

/-- length preservation is kept by reading any candle source first -/
theorem len_any_source {K : List Rat → Ser} (hK : LenPres K) (s : Source) :
    LenPres (fun cs : List Candle => K (source s cs)) :=
  fun cs => (hK (source s cs)).trans (List.length_map _)

/-- every public indicator either has the standard wrapper (`E if sequential else E[-1]`, field by
    field, possibly NaN-padded in front, behind `slice_candles(candles, sequential)` — except the three of
    `noSlice`, which have the standard return but do not call `slice_candles`), or is one of the
    documented exemptions with exactly the shape recorded for it (minmax: `-(order + 1)`; donchian, aroon, … compute
    the two modes separately; lrsi, cfo, … return None for NaN), or has no sequential mode -/
theorem table_standard : ∀ e ∈ Jesse.Gen.indWrappers, wrapperOk e = true := by
  -- Deciding `exemptWrappers.contains e` makes the kernel compare the long shape strings of an exempt entry
  -- byte by byte, which is slow; `rfl` on the filtered table compares the entries as terms.
  have hx : Jesse.Gen.indWrappers.filter (fun e => e.hasSeq && !e.standard) = exemptWrappers := rfl
  have hr : ∀ e ∈ Jesse.Gen.indWrappers, (e.hasSeq && !e.standard) = false →
      (e.standard && (e.slices || noSlice.contains e.name) || !e.hasSeq && noSequential.contains e.name) = true := by
    decide +kernel
  intro e he
  cases h : e.hasSeq && !e.standard
  · rcases Bool.or_eq_true_iff.1 (hr e he h) with hA | hN
    · simp only [wrapperOk, hA, Bool.true_or]
    · simp only [wrapperOk, hN, Bool.or_true]
  · have : exemptWrappers.contains e = true := List.contains_iff_mem.2 (hx ▸ List.mem_filter.2 ⟨he, h⟩)
    simp only [wrapperOk, this, Bool.or_true, Bool.true_or]

/-- non-vacuity: the table has at least 170 entries, at least 140 of them of the standard shape -/
theorem table_covers : Jesse.Gen.indWrappers.length ≥ 170 ∧ (Jesse.Gen.indWrappers.filter (fun e => e.standard)).length ≥ 140 := by
  decide +kernel

end C14
